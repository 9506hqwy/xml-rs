import XmlRsModel.CharData
import XmlRsModel.Lemmas.DomStep
/-! Property C16: character-data operations work on character offsets with DOM Level 1 semantics.
    The executable model (`CharData.step`) is characterised here by the sentences of DOM Level 1
    (`substringData`, `insertData`, `deleteData`, `replaceData`, `splitText`): which characters
    come out, what is preserved, when INDEX_SIZE_ERR is raised, and that counts are clipped. -/
namespace XmlRs.C16
open XmlRs CharData

theorem exists_cut {s : Str} {o : Nat} (h : ¬ s.length < o) : ∃ p q, s = p ++ q ∧ p.length = o :=
  ⟨s.take o, s.drop o, (List.take_append_drop o s).symm, List.length_take_of_le (Nat.le_of_not_lt h)⟩

/-- The common form of the operations: refused beyond the end; otherwise the data is cut at the offset
    and the two parts are put together again in some way `F`. -/
theorem cut_eq_some {β : Type} (F : Str → Str → β) (s : Str) (o : Nat) (t : β) :
    (if s.length < o then none else some (F (s.take o) (s.drop o))) = some t ↔
      ∃ p q, s = p ++ q ∧ p.length = o ∧ t = F p q := by
  constructor
  · intro h
    by_cases hl : s.length < o
    · rw [if_pos hl] at h; cases h
    · rw [if_neg hl] at h
      obtain ⟨p, q, hs, hp⟩ := exists_cut hl
      exact ⟨p, q, hs, hp, by rw [← Option.some.inj h, hs, ← hp, List.take_left, List.drop_left]⟩
  · rintro ⟨p, q, rfl, rfl, rfl⟩
    rw [if_neg (by simp), List.take_left, List.drop_left]

theorem cut_eq_none {β : Type} (x : β) (s : Str) (o : Nat) :
    (if s.length < o then none else some x) = none ↔ s.length < o := by
  by_cases h : s.length < o
  · rw [if_pos h]; exact iff_of_true rfl h
  · rw [if_neg h]; exact iff_of_false nofun h

theorem substringData_eq_some {s t : Str} {o c : Nat} :
    substringData s o c = some t ↔ ∃ p q, s = p ++ q ∧ p.length = o ∧ t = q.take c :=
  cut_eq_some (fun _ q => q.take c) s o t

theorem insertData_eq_some {s a t : Str} {o : Nat} :
    insertData s o a = some t ↔ ∃ p q, s = p ++ q ∧ p.length = o ∧ t = p ++ a ++ q :=
  cut_eq_some (fun p q => p ++ a ++ q) s o t

theorem deleteData_eq_some {s t : Str} {o c : Nat} :
    deleteData s o c = some t ↔ ∃ p q, s = p ++ q ∧ p.length = o ∧ t = p ++ q.drop c := by
  rw [deleteData, ← List.drop_drop]; exact cut_eq_some (fun p q => p ++ q.drop c) s o t

theorem replaceData_eq_some {s a t : Str} {o c : Nat} :
    replaceData s o c a = some t ↔ ∃ p q, s = p ++ q ∧ p.length = o ∧ t = p ++ a ++ q.drop c := by
  rw [replaceData, ← List.drop_drop]; exact cut_eq_some (fun p q => p ++ a ++ q.drop c) s o t

theorem splitText_eq_some {s l r : Str} {o : Nat} : splitText s o = some (l, r) ↔ s = l ++ r ∧ l.length = o :=
  (cut_eq_some Prod.mk s o (l, r)).trans
    ⟨fun ⟨_, _, hs, hl, e⟩ => by cases e; exact ⟨hs, hl⟩, fun ⟨hs, hl⟩ => ⟨l, r, hs, hl, rfl⟩⟩

theorem substring_error_iff (s : Str) (o c : Nat) : substringData s o c = none ↔ s.length < o :=
  cut_eq_none _ s o

theorem substring_spec (s t : Str) (o c : Nat) (h : substringData s o c = some t) :
    t.length = min c (s.length - o) ∧ ∀ i, i < t.length → t[i]? = s[o + i]? := by
  obtain ⟨p, q, rfl, rfl, rfl⟩ := substringData_eq_some.mp h
  refine ⟨by rw [List.length_take, List.length_append, Nat.add_sub_cancel_left], fun i hi => ?_⟩
  rw [List.getElem?_take_of_lt (by rw [List.length_take] at hi; omega),
    List.getElem?_append_right (Nat.le_add_right _ _), Nat.add_sub_cancel_left]

/-- a count reaching past the end behaves like the count that reaches exactly the end
    (so `usize::MAX` is not special) -/
theorem substring_clip (s : Str) (o c : Nat) (h : s.length - o ≤ c) :
    substringData s o c = substringData s o (s.length - o) := by
  rw [substringData, substringData, List.take_of_length_le (by rw [List.length_drop]; exact h),
    List.take_of_length_le (by rw [List.length_drop]; exact Nat.le_refl _)]

theorem insert_error_iff (s a : Str) (o : Nat) : insertData s o a = none ↔ s.length < o :=
  cut_eq_none _ s o

theorem insert_spec (s a t : Str) (o : Nat) (h : insertData s o a = some t) :
    t.take o = s.take o ∧ (t.drop o).take a.length = a ∧ t.drop (o + a.length) = s.drop o ∧
    t.length = s.length + a.length := by
  obtain ⟨p, q, rfl, rfl, rfl⟩ := insertData_eq_some.mp h
  refine ⟨?_, ?_, ?_, ?_⟩
  · rw [List.append_assoc, List.take_left, List.take_left]
  · rw [List.append_assoc, List.drop_left, List.take_left]
  · rw [← List.length_append, List.drop_left, List.drop_left]
  · simp only [List.length_append]; omega

theorem delete_error_iff (s : Str) (o c : Nat) : deleteData s o c = none ↔ s.length < o :=
  cut_eq_none _ s o

theorem delete_spec (s t : Str) (o c : Nat) (h : deleteData s o c = some t) :
    t.take o = s.take o ∧ t.drop o = s.drop (o + c) ∧ t.length = s.length - min c (s.length - o) := by
  obtain ⟨p, q, rfl, rfl, rfl⟩ := deleteData_eq_some.mp h
  refine ⟨?_, ?_, ?_⟩
  · rw [List.take_left, List.take_left]
  · rw [List.drop_left, ← List.drop_drop, List.drop_left]
  · simp only [List.length_append, List.length_drop, Nat.add_sub_cancel_left]; omega

theorem delete_clip (s : Str) (o c : Nat) (h : s.length - o ≤ c) :
    deleteData s o c = deleteData s o (s.length - o) := by
  rw [deleteData, deleteData, List.drop_of_length_le (by omega), List.drop_of_length_le (by omega)]

theorem replace_eq_delete_insert (s a : Str) (o c : Nat) :
    replaceData s o c a = (deleteData s o c).bind (fun t => insertData t o a) := by
  by_cases hl : s.length < o
  · rw [replaceData, deleteData, if_pos hl, if_pos hl]; rfl
  · obtain ⟨p, q, rfl, rfl⟩ := exists_cut hl
    rw [replaceData_eq_some.mpr ⟨p, q, rfl, rfl, rfl⟩, deleteData_eq_some.mpr ⟨p, q, rfl, rfl, rfl⟩]
    exact (insertData_eq_some.mpr ⟨p, q.drop c, rfl, rfl, rfl⟩).symm

theorem append_spec (s a : Str) : insertData s s.length a = some (appendData s a) :=
  insertData_eq_some.mpr ⟨s, [], (List.append_nil s).symm, rfl, by rw [List.append_nil]; rfl⟩

theorem split_concat (s l r : Str) (o : Nat) (h : splitText s o = some (l, r)) :
    l ++ r = s ∧ l.length = o :=
  (splitText_eq_some.mp h).imp_left Eq.symm

theorem offset_beyond_length_is_index_size (s a : Str) (o c : Nat) (h : s.length < o) :
    step s (.sub o c) = (s, .indexSize) ∧ step s (.ins o a) = (s, .indexSize) ∧
    step s (.del o c) = (s, .indexSize) ∧ step s (.rep o c a) = (s, .indexSize) ∧
    step s (.split o) = (s, .indexSize) := by
  simp [step, substringData, insertData, deleteData, replaceData, splitText, h]

theorem in_range_never_fails (s a : Str) (o c : Nat) (h : o ≤ s.length) :
    (step s (.sub o c)).2 ≠ .indexSize ∧ (step s (.ins o a)).2 ≠ .indexSize ∧
    (step s (.del o c)).2 ≠ .indexSize ∧ (step s (.rep o c a)).2 ≠ .indexSize ∧
    (step s (.split o)).2 ≠ .indexSize := by
  have : ¬ s.length < o := by omega
  simp [step, substringData, insertData, deleteData, replaceData, splitText, this]

-- non-vacuity: a clipped deleteData and a splitText on a string with an astral character
example : deleteData ['a', 'b', '𝒳', 'd', 'e'] 3 10 = some ['a', 'b', '𝒳'] ∧
    splitText ['a', '𝒳', 'c'] 2 = some (['a', '𝒳'], ['c']) ∧ substringData ['a', 'b'] 3 0 = none := by decide

theorem insert_then_substring (s a t : Str) (o : Nat) (h : insertData s o a = some t) :
    substringData t o a.length = some a := by
  obtain ⟨p, q, rfl, rfl, rfl⟩ := insertData_eq_some.mp h
  exact substringData_eq_some.mpr ⟨p, a ++ q, List.append_assoc .., rfl, List.take_left.symm⟩

theorem insert_then_delete (s a t : Str) (o : Nat) (h : insertData s o a = some t) :
    deleteData t o a.length = some s := by
  obtain ⟨p, q, rfl, rfl, rfl⟩ := insertData_eq_some.mp h
  exact deleteData_eq_some.mpr ⟨p, a ++ q, List.append_assoc .., rfl, by rw [List.drop_left]⟩

theorem delete_then_insert (s m t : Str) (o c : Nat) (hm : substringData s o c = some m)
    (h : deleteData s o c = some t) : insertData t o m = some s := by
  obtain ⟨p, q, rfl, rfl, rfl⟩ := deleteData_eq_some.mp h
  obtain ⟨p', q', e, hl, rfl⟩ := substringData_eq_some.mp hm
  obtain ⟨rfl, rfl⟩ := List.append_inj e hl.symm
  exact insertData_eq_some.mpr ⟨p, q.drop c, rfl, rfl, by rw [List.append_assoc, List.take_append_drop]⟩

theorem substring_whole (s : Str) : substringData s 0 s.length = some s :=
  substringData_eq_some.mpr ⟨[], s, rfl, rfl, (List.take_length ..).symm⟩

theorem failed_step_keeps_data (s : Str) (op : Op) (h : (step s op).2 = .indexSize) :
    (step s op).1 = s := by
  -- `step` answers `.indexSize` only from the `none` branch of a `match`, and each of those branches is `(s, .indexSize)`
  cases op with
  | len | app a | set a => cases h
  | sub o c => rfl
  | ins o a => revert h; simp only [step]; cases insertData s o a with | none => exact fun _ => rfl | some t => exact nofun
  | del o c => revert h; simp only [step]; cases deleteData s o c with | none => exact fun _ => rfl | some t => exact nofun
  | rep o c a => revert h; simp only [step]; cases replaceData s o c a with | none => exact fun _ => rfl | some t => exact nofun
  | split o => revert h; simp only [step]; cases splitText s o with | none => exact fun _ => rfl | some lr => exact nofun

theorem reads_keep_data (s : Str) (o c : Nat) : (step s .len).1 = s ∧ (step s (.sub o c)).1 = s := by
  simp [step]

/-- a successful insert / append adds exactly the argument's length: no unit other than the character is involved -/
theorem step_length (s : Str) (op : Op) :
    ((step s op).1).length =
      match op with
      | .len | .sub _ _ => s.length
      | .app a => s.length + a.length
      | .set a => a.length
      | .ins o a => if s.length < o then s.length else s.length + a.length
      | .del o c => if s.length < o then s.length else s.length - min c (s.length - o)
      | .rep o c a => if s.length < o then s.length else s.length - min c (s.length - o) + a.length
      | .split o => if s.length < o then s.length else o := by
  cases op with
  | len | sub _ _ | set _ => rfl
  | app a => exact List.length_append
  | split o =>
    by_cases hl : s.length < o
    · simp only [step, splitText, if_pos hl]
    · simp only [step, splitText, if_neg hl]; exact List.length_take_of_le (Nat.le_of_not_lt hl)
  | ins o _ | del o _ | rep o _ _ =>
    by_cases hl : s.length < o
    · simp only [step, insertData, deleteData, replaceData, if_pos hl]
    · obtain ⟨p, q, rfl, rfl⟩ := exists_cut hl
      simp only [step, insertData, deleteData, replaceData, if_neg hl]
      simp only [List.take_left, ← List.drop_drop, List.drop_left, List.length_append, List.length_drop,
        Nat.add_sub_cancel_left]
      omega

example : insertData ['a', '𝒳'] 1 ['é'] = some ['a', 'é', '𝒳'] ∧
    deleteData ['a', 'é', '𝒳'] 1 1 = some ['a', '𝒳'] := by decide

def runOps (s : Str) (ops : List Op) : Str := ops.foldl (fun s op => (step s op).1) s

/-- the calls of a history that did not raise INDEX_SIZE_ERR (judged in the state each one ran in) -/
def okOps : Str → List Op → List Op
  | _, [] => []
  | s, op :: r => if (step s op).2 = .indexSize then okOps s r else op :: okOps (step s op).1 r

theorem runOps_cons (s : Str) (op : Op) (r : List Op) : runOps s (op :: r) = runOps (step s op).1 r := rfl

/-- over any history, on any data: the calls that failed might as well not have been made - the final data is that
    of the successful calls alone (no partial effect of a refused call survives, however the calls are interleaved) -/
theorem failed_calls_leave_no_trace (ops : List Op) (s : Str) : runOps s ops = runOps s (okOps s ops) := by
  induction ops generalizing s with
  | nil => rfl
  | cons op r ih =>
    unfold okOps
    split
    · next h => rw [runOps_cons, failed_step_keeps_data s op h]; exact ih s
    · exact ih _

theorem reads_leave_no_trace (ops : List Op) (s : Str) :
    runOps s ops = runOps s (ops.filter fun | .len | .sub _ _ => false | _ => true) := by
  induction ops generalizing s with
  | nil => rfl
  | cons op r ih =>
    cases op <;> exact ih _

example : runOps ['a', 'b'] [.ins 5 ['x'], .del 1 9, .sub 7 1, .app ['𝒳']] = ['a', '𝒳'] ∧
    (okOps ['a', 'b'] [.ins 5 ['x'], .del 1 9, .sub 7 1, .app ['𝒳']]).length = 2 := by decide

section SplitText
open XmlRs.Dom
theorem insertBeforeL_at (x nx : Node) (a r : List Node) (h : ∀ m ∈ a, m.id ≠ nx.id) :
    insertBeforeL x (some nx.id) (a ++ nx :: r) = a ++ x :: nx :: r := by
  induction a with
  | nil => simp [insertBeforeL]
  | cons m a ih =>
    have hm : (m.id == nx.id) = false := by simpa using h m (by simp)
    simp only [List.cons_append, insertBeforeL, hm]
    rw [ih (fun m' hm' => h m' (by simp [hm']))]; rfl

theorem dropWhile_ne_at (n : Nat) (nd : Node) (pre post : List Node) (hid : nd.id = n)
    (h : ∀ m ∈ pre, m.id ≠ n) :
    (pre ++ nd :: post).dropWhile (·.id != n) = nd :: post := by
  induction pre with
  | nil => simp [hid]
  | cons m a ih =>
    have hm : (m.id != n) = true := by simpa using h m (by simp)
    simp only [List.cons_append, List.dropWhile, hm]
    exact ih (fun m' hm' => h m' (by simp [hm']))

/-- splitText leaves TWO ADJACENT SIBLINGS: whenever the children of the parent carry pairwise distinct
    identities (C12's invariant), the new node is placed immediately after the split node - not at the end of
    the list, not before it - and every other child keeps its place -/
theorem split_places_new_node_next (n : Nat) (new nd : Node) (pre post : List Node) (hid : nd.id = n)
    (hn : ((pre ++ nd :: post).map (·.id)).Nodup) :
    splitPlace n new (pre ++ nd :: post) = pre ++ nd :: new :: post := by
  simp only [List.map_append, List.map_cons, List.nodup_append, List.nodup_cons, List.mem_map,
    List.mem_cons] at hn
  obtain ⟨_, ⟨hnd, hpost⟩, hdis⟩ := hn
  have hpre : ∀ m ∈ pre, m.id ≠ n := fun m hm e => by
    have := hdis (m.id) ⟨m, hm, rfl⟩ nd.id (Or.inl rfl)
    exact this (by rw [e, hid])
  unfold splitPlace
  rw [dropWhile_ne_at n nd pre post hid hpre]
  cases post with
  | nil => simp
  | cons nx rest =>
    simp only [List.drop_one, List.tail_cons]
    have : pre ++ nd :: nx :: rest = (pre ++ [nd]) ++ nx :: rest := by simp
    rw [this, insertBeforeL_at]
    · simp
    · intro m hm e
      rcases List.mem_append.mp hm with hm | hm
      · exact hdis m.id ⟨m, hm, rfl⟩ nx.id (Or.inr ⟨nx, List.mem_cons_self, rfl⟩) e
      · simp only [List.mem_singleton] at hm; subst hm
        exact hnd ⟨nx, List.mem_cons_self, e.symm⟩

example : splitPlace 2 (.mk 9 .text ['b'] [] []) [.mk 1 .text [] [] [], .mk 2 .text ['a'] [] [], .mk 3 .comment [] [] []]
    = [.mk 1 .text [] [] [], .mk 2 .text ['a'] [] [], .mk 9 .text ['b'] [] [], .mk 3 .comment [] [] []] := by rfl

theorem splitText_ok_shape (s s' : St) (n off k : Nat) (h : Dom.step s (.splitText n off) = (s', .node k)) :
    ∃ nn l r, s.find n = some nn ∧ (nn.kind = .text ∨ nn.kind = .cdata) ∧
      CharData.splitText nn.data off = some (l, r) ∧ l ++ r = nn.data ∧ l.length = off ∧
      k = s.next ∧ s'.next = s.next + 1 ∧ s'.handles = s.handles ++ [some s.next] := by
  simp only [Dom.step] at h
  split at h
  · next nn hf =>
    have hk : nn.kind = .text ∨ nn.kind = .cdata := by
      split at h
      · exact .inl ‹_›
      · exact .inr ‹_›
      · cases h
    cases hsp : CharData.splitText nn.data off with
    | none => rcases hk with hk | hk <;> simp [hk, hsp] at h
    | some lr =>
      obtain ⟨l, r⟩ := lr
      refine ⟨nn, l, r, hf, hk, hsp, (split_concat _ _ _ _ hsp).1, (split_concat _ _ _ _ hsp).2, ?_⟩
      rcases hk with hk | hk
      all_goals
        simp only [hk, hsp, Prod.mk.injEq, Res.node.injEq] at h
        obtain ⟨rfl, rfl⟩ := h
        exact ⟨rfl, rfl, rfl⟩
  · cases h

theorem splitText_index_size (s : St) (n off : Nat) (nn : Node) (hf : s.find n = some nn)
    (hk : nn.kind = .text ∨ nn.kind = .cdata) (ho : nn.data.length < off) :
    (Dom.step s (.splitText n off)).2 = .err .indexSize ∧
    (Dom.step s (.splitText n off)).1.doc = s.doc ∧ (Dom.step s (.splitText n off)).1.detached = s.detached := by
  have hsp : CharData.splitText nn.data off = none := by simp [CharData.splitText, ho]
  simp only [Dom.step, hf]
  rcases hk with hk | hk <;> simp [hk, hsp]

theorem splitText_wrong_kind (s : St) (n off : Nat) (nn : Node) (hf : s.find n = some nn)
    (h1 : nn.kind ≠ .text) (h2 : nn.kind ≠ .cdata) :
    (Dom.step s (.splitText n off)).2 = .err .hierarchy ∧
    (Dom.step s (.splitText n off)).1.doc = s.doc ∧ (Dom.step s (.splitText n off)).1.detached = s.detached := by
  simp only [Dom.step, hf]
  cases hk : nn.kind <;> simp_all
end SplitText

end XmlRs.C16
