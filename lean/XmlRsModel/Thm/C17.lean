import XmlRsModel.Cli
import XmlRsModel.Lemmas.XPathOrder
import XmlRsModel.Lemmas.CliIndex
import XmlRsModel.Thm.C04
/-! Property C17: `xe` replaces the children of the selected element / attribute / document nodes by the parsed
    replacement and leaves the rest alone; `xq` prints the serializations of the selected nodes in the order of the
    node-set, or the scalar; both end in success or in an error (`CliOut.fail`: message and non-zero status).
    Proved of the rewrite on the information-set tree: an item with no selected key at or below it comes out as it went
    in, a selected element keeps its name and gets exactly the replacement as children, attribute names and the number
    of children are kept; of `xq`: what it prints for a node-set, and that every failing stage gives `.fail`; of `xe`:
    a successful run went through every stage and writes the input document with rewritten children.
    `Cli.xe` / `Cli.xq` are the compositions parser ∘ XPath evaluator ∘ rewrite ∘ printer; every function involved is
    total (structural recursion, no `partial`), which is the model's form of "never a crash".  The rewrite addresses
    children by counting as `kidIdx` does; `kidIdx` is proved to be the merged-text numbering of `buildItems`, that
    `rewriteKids` counts like `kidIdx` is read off the two definitions. -/
namespace XmlRs.C17
open XmlRs XmlRs.XPath XmlRs.Cli Gen.Xml

def touches (sel : List Key) (base : Key) : Prop := ∃ k ∈ sel, isPrefix base k = true

private theorem of_ite {α : Sort _} {c : Prop} [Decidable c] {a b r : α} (h : (if c then a else b) = r) :
    c ∧ a = r ∨ ¬ c ∧ b = r := by
  by_cases hc : c
  · exact .inl ⟨hc, by rwa [if_pos hc] at h⟩
  · exact .inr ⟨hc, by rwa [if_neg hc] at h⟩

private theorem untouched_sub {sel : List Key} {base : Key} (ext : Key) (h : ¬ touches sel base) :
    ¬ touches sel (base ++ ext) := by
  rintro ⟨k, hk, hp⟩
  obtain ⟨t, rfl⟩ := isPrefix_iff.1 hp
  exact h ⟨_, hk, isPrefix_iff.2 ⟨ext ++ t, List.append_assoc ..⟩⟩

private theorem not_contains_of_untouched {sel : List Key} {base : Key} (h : ¬ touches sel base) :
    sel.contains base = false :=
  Bool.eq_false_iff.mpr fun hc => h ⟨base, List.contains_iff_mem.mp hc, isPrefix_iff.2 ⟨[], (List.append_nil _).symm⟩⟩

theorem rewriteAttrs_frame (sel : List Key) (repl : Option (List Piece)) (base : Key) (h : ¬ touches sel base)
    (j : Nat) (as : List Attr) : rewriteAttrs sel repl base j as = some as := by
  induction as generalizing j with
  | nil => rfl
  | cons a r ih =>
    simp only [rewriteAttrs, not_contains_of_untouched (untouched_sub [1, j] h), ih, Option.map_some]
    split <;> rfl

theorem newDefaults_frame (sel : List Key) (repl : Option (List Piece)) (base : Key) (h : ¬ touches sel base)
    (j : Nat) (ds : List (Attr × Bool)) : newDefaults sel repl base j ds = some [] := by
  induction ds generalizing j with
  | nil => rfl
  | cons a r ih =>
    simp only [newDefaults, not_contains_of_untouched (untouched_sub [1, j] h), ih]
    split <;> rfl

mutual
/-- FRAME: an item with no selected node at or below it comes out as it went in (only in an element is there anything to walk through) -/
theorem rewriteItem_frame (dt : Option Doctype) (req : Bool) (sel : List Key) (repl : List Item) (base : Key) (x : Item)
    (h : ¬ touches sel base) : rewriteItem dt req sel repl base x = some x := by
  cases x with
  | elem n attrs kids =>
    simp only [rewriteItem, rewriteAttrs_frame sel _ base h, newDefaults_frame sel _ base h,
      not_contains_of_untouched h, rewriteKids_frame dt req sel repl base kids h 0 false, Bool.false_eq_true,
      if_false, Option.map_some, List.append_nil]
  | _ => rfl
theorem rewriteKids_frame (dt : Option Doctype) (req : Bool) (sel : List Key) (repl : List Item) (base : Key) (kids : List Item)
    (h : ¬ touches sel base) (n : Nat) (p : Bool) : rewriteKids dt req sel repl base n p kids = some kids := by
  cases kids with
  | nil => rfl
  | cons x r =>
    simp only [rewriteKids, rewriteKids_frame dt req sel repl base r h,
      rewriteItem_frame dt req sel repl (base ++ [n + 2]) x (untouched_sub _ h), Option.map_some]
    split <;> rfl
end

/-- EFFECT (elements): the selected element keeps its name, its attributes are those the attribute
    rewrite yields (followed by defaulted attributes that were selected themselves), and its children
    are exactly the replacement -/
theorem rewriteItem_selected (dt : Option Doctype) (req : Bool) (sel : List Key) (repl : List Item) (base : Key) (n : QN)
    (attrs : List Attr) (kids : List Item) (h : sel.contains base = true) (y : Item)
    (hy : rewriteItem dt req sel repl base (.elem n attrs kids) = some y) :
    ∃ as extra, rewriteAttrs sel (attrPieces repl) base 0 attrs = some as ∧
      newDefaults sel (attrPieces repl) base (defaultsOf dt req n attrs).1 (defaultsOf dt req n attrs).2 = some extra ∧
      y = .elem n (as ++ extra) repl := by
  rw [rewriteItem] at hy
  split at hy
  · next as extra ha hd =>
    rw [if_pos h] at hy
    exact ⟨as, extra, ha, hd, (Option.some.inj hy).symm⟩
  · cases hy

theorem rewriteItem_unselected (dt : Option Doctype) (req : Bool) (sel : List Key) (repl : List Item) (base : Key) (n : QN)
    (attrs : List Attr) (kids : List Item) (h : sel.contains base = false) (y : Item)
    (hy : rewriteItem dt req sel repl base (.elem n attrs kids) = some y) :
    ∃ as extra ks, rewriteAttrs sel (attrPieces repl) base 0 attrs = some as ∧
      newDefaults sel (attrPieces repl) base (defaultsOf dt req n attrs).1 (defaultsOf dt req n attrs).2 = some extra ∧
      rewriteKids dt req sel repl base 0 false kids = some ks ∧ y = .elem n (as ++ extra) ks := by
  rw [rewriteItem] at hy
  split at hy
  · next as extra ha hd =>
    rw [if_neg (by rw [h]; exact Bool.false_ne_true)] at hy
    obtain ⟨ks, hk, e⟩ := Option.map_eq_some_iff.mp hy
    exact ⟨as, extra, ks, ha, hd, hk, e.symm⟩
  · cases hy

theorem rewriteAttrs_names (sel : List Key) (repl : Option (List Piece)) (base : Key) (j : Nat) (as bs : List Attr)
    (h : rewriteAttrs sel repl base j as = some bs) : bs.map (·.name) = as.map (·.name) := by
  induction as generalizing j bs with
  | nil => cases h; rfl
  | cons a r ih =>
    unfold rewriteAttrs at h
    rcases of_ite h with ⟨_, h⟩ | ⟨_, h⟩
    · obtain ⟨rest, hr, rfl⟩ := Option.map_eq_some_iff.mp h
      rw [List.map_cons, List.map_cons, ih _ _ hr]
    · rcases of_ite h with ⟨_, h⟩ | ⟨_, h⟩
      · split at h
        · next hr => cases h; rw [List.map_cons, List.map_cons, ih _ _ hr]
        · cases h
      · obtain ⟨rest, hr, rfl⟩ := Option.map_eq_some_iff.mp h
        rw [List.map_cons, List.map_cons, ih _ _ hr]

theorem rewriteKids_length (dt : Option Doctype) (req : Bool) (sel : List Key) (repl : List Item) (base : Key) (n : Nat) (p : Bool) (kids ks : List Item)
    (h : rewriteKids dt req sel repl base n p kids = some ks) : ks.length = kids.length := by
  induction kids generalizing n p ks with
  | nil => cases h; rfl
  | cons x r ih =>
    unfold rewriteKids at h
    rcases of_ite h with ⟨_, h⟩ | ⟨_, h⟩
    · obtain ⟨rest, hr, rfl⟩ := Option.map_eq_some_iff.mp h
      rw [List.length_cons, List.length_cons, ih _ _ _ hr]
    · split at h
      · next hr => cases h; rw [List.length_cons, List.length_cons, ih _ _ _ hr]
      · cases h

/-- the index `kidIdx` gives a child that is not character data is the position of that child's node in the XPath
    tree built from the same children (`rewriteKids` counts the same way in its own recursion; that is read off the
    definitions, not proved) -/
theorem rewrite_numbering_is_xpath_numbering (cfg : BuildCfg) (scope : List (Str × Str)) (kids : List Item)
    (ns : List XNode) (h : buildItems cfg scope kids none = .ok ns) (j idx : Nat) (x : Item)
    (hj : kids[j]? = some x) (hx : isTextLike x = false) (hidx : (kidIdx 0 false kids)[j]? = some idx) :
    ∃ node, buildItem cfg scope x = .ok node ∧ ns[idx]? = some node := by
  obtain ⟨i, node, rfl, hn, hi⟩ := kidIdx_is_xpath_index cfg scope kids none ns h 0 j x idx hj hx hidx
  exact ⟨node, hn, by rwa [Nat.zero_add]⟩

def xqLines (req : Bool) (d : IDoc) (xd : XDoc) (ks : List Key) : Str :=
  ks.flatMap fun k => match locate req d k with
    | some sel => printSel sel d ++ ['\n']
    | none => match lookup xd k with
      | some (.ns _ p u) => printSel (.ns p u) d ++ ['\n']
      | _ => "?\n".toList

/-- `xq` on a usable document and expression: the scalar, or one line per node of the node-set; and the
    node-set is in document order without duplicates (C07), so these are the selected nodes, each once,
    in document order -/
theorem xq_prints_selection (req negz : Bool) (text : Str) (bind : List (Option Str × Str)) (expr : Str)
    (d : IDoc) (xd : XDoc) (hp : parseDoc text = .ok (d, [])) (hb : buildDoc false req d = .ok xd) (ks : List Key)
    (hq : XPath.query ⟨{ xd with negZeroQuirk := negz }, bind⟩ expr = .ok (.nodes ks)) :
    xq req negz text bind expr = .ok (xqLines req d { xd with negZeroQuirk := negz } ks) := by
  simp only [xq, hp, hb, hq, xqLines]
  rfl

theorem xq_unparsable_fails (req negz : Bool) (text : Str) (bind : List (Option Str × Str)) (expr : Str) (e : XErr)
    (hp : parseDoc text = .error e) : xq req negz text bind expr = .fail := by
  simp only [xq, hp]

theorem xq_trailing_fails (req negz : Bool) (text : Str) (bind : List (Option Str × Str)) (expr : Str) (d : IDoc)
    (c : Char) (rest : Str) (hp : parseDoc text = .ok (d, c :: rest)) : xq req negz text bind expr = .fail := by
  simp only [xq, hp]

theorem xq_bad_query_fails (req negz : Bool) (text : Str) (bind : List (Option Str × Str)) (expr : Str)
    (d : IDoc) (xd : XDoc) (hp : parseDoc text = .ok (d, [])) (hb : buildDoc false req d = .ok xd) (e : QErr)
    (hq : XPath.query ⟨{ xd with negZeroQuirk := negz }, bind⟩ expr = .error e) :
    xq req negz text bind expr = .fail := by
  simp only [xq, hp, hb, hq]

private theorem of_ite_fail {c : Prop} [Decidable c] {x : CliOut} {out : Str} (h : (if c then .fail else x) = .ok out) :
    x = .ok out :=
  (of_ite h).elim (fun h => nomatch h.2) (·.2)

/-- A successful `xe` has gone through every stage, and what it writes is the input document with nothing but its
    children changed: left as they are when nothing is selected, the replacement when the document node is, and the
    children rewritten by `rewriteTops` otherwise.
    (The conditions of `xe` are taken apart one at a time: `split` on the whole term is very slow.) -/
theorem xe_ok_inv {req : Bool} {text : Str} {bind : List (Option Str × Str)} {expr value out : Str}
    (h : xe req text bind expr value = .ok out) :
    ∃ (d : IDoc) (kids : List TopItem), out = printDoc { d with kids := kids } ++ ['\n'] ∧
    ∃ (vd : IDoc) (repl : List Item) (xd : XDoc) (ks : List Key),
      parseDoc ("<e>".toList ++ value ++ "</e>".toList) = .ok (vd, []) ∧
      (vd.kids.findSome? fun | .elem (.elem _ _ k) => some k | _ => none) = some repl ∧
      parseDoc text = .ok (d, []) ∧ buildDoc false req d = .ok xd ∧ XPath.query ⟨xd, bind⟩ expr = .ok (.nodes ks) ∧
      (ks = [] ∧ kids = d.kids ∨ ks.contains [] = true ∧ topsOf repl = some kids ∨
       ks.contains [] = false ∧ rewriteTops (docDoctype d) req ks repl 0 d.kids = some kids) := by
  unfold xe at h
  split at h
  · next vd hv =>
    split at h
    · cases h
    · next repl hr =>
      split at h
      · next d hd =>
        split at h
        · cases h
        · next xd hx =>
          split at h
          · next ks hq =>
            refine ⟨d, ?_⟩
            rcases of_ite (of_ite_fail h) with ⟨he, h⟩ | ⟨_, h⟩
            · cases h
              exact ⟨d.kids, rfl, vd, repl, xd, ks, hv, hr, hd, hx, hq, .inl ⟨List.isEmpty_iff.mp he, rfl⟩⟩
            · rcases of_ite (of_ite_fail (of_ite_fail h)) with ⟨hc, h⟩ | ⟨hc, h⟩
              · split at h
                · cases h
                · next tops ht =>
                  cases of_ite_fail h
                  exact ⟨tops, rfl, vd, repl, xd, ks, hv, hr, hd, hx, hq, .inr (.inl ⟨hc, ht⟩)⟩
              · have h := of_ite_fail h
                split at h
                · next ks' hk =>
                  cases h
                  exact ⟨ks', rfl, vd, repl, xd, ks, hv, hr, hd, hx, hq, .inr (.inr ⟨Bool.eq_false_iff.mpr hc, hk⟩)⟩
                · cases h
          · cases h
      · cases h
  · cases h

theorem xe_output_is_a_serialization (req : Bool) (text : Str) (bind : List (Option Str × Str)) (expr value out : Str)
    (h : xe req text bind expr value = .ok out) : ∃ d' : IDoc, out = printDoc d' ++ ['\n'] := by
  obtain ⟨d, kids, ho, _⟩ := xe_ok_inv h
  exact ⟨{ d with kids := kids }, ho⟩

/-- the output of `xe` PARSES BACK to the rewritten document whenever the rewritten document is printable (the profile and the
    side conditions of C04 `print_parse_roundtrip`): the tool never writes, for such a document, something the parser refuses
    or reads as another document -/
theorem xe_output_reparses (d' : IDoc) (cd : CDoc) (out : Str) (ho : out = printDoc d' ++ ['\n'])
    (hc : canonDoc d' = some cd) (hok : cd.ok = true) (hf : d'.kids.all faithfulTop = true)
    (hdepth : cd.root.depth ≤ maxDepth_element) (hgroups : doctypeDepth cd.doctype ≤ maxDepth_children) (hchk : checkDoc d' = .ok ()) :
    ∃ f0, ∀ f, f0 ≤ f → parseDocFuel env false f out = .ok (d', []) := by
  subst ho
  exact C04.print_newline_roundtrip d' cd hc hok hf hdepth hgroups hchk

end XmlRs.C17
