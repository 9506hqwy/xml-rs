import XmlRsModel.Lemmas.XPathOrder
/-! Property C07: node-sets are duplicate-free, document-ordered and obey set algebra.
    Every node-set value the evaluator can return is a sub-list of `allKeys d`, the list of all nodes
    in document order, which is strictly increasing for the document order `keyLt`
    (`Lemmas/XPathOrder`).  Union is list concatenation followed by `normalize`, for which the set
    laws are proved. -/
namespace XmlRs.C07
open XmlRs XmlRs.XPath

theorem normalize_sublist {d : XDoc} {ks : List Key} : (normalize d ks).Sublist (allKeys d) :=
  List.filter_sublist

theorem normalize_sorted (d : XDoc) (ks : List Key) : (normalize d ks).Pairwise KLt :=
  (allKeys_pairwise d).sublist normalize_sublist

theorem normalize_nodup (d : XDoc) (ks : List Key) : (normalize d ks).Nodup :=
  (allKeys_nodup d).sublist normalize_sublist

theorem mem_normalize (d : XDoc) (ks : List Key) (k : Key) :
    k ∈ normalize d ks ↔ k ∈ allKeys d ∧ k ∈ ks := by
  rw [normalize, List.mem_filter, List.contains_iff_mem]

theorem normalize_ext (d : XDoc) (xs ys : List Key) (h : ∀ k ∈ allKeys d, k ∈ xs ↔ k ∈ ys) :
    normalize d xs = normalize d ys :=
  List.filter_congr fun k hk => by
    rw [Bool.eq_iff_iff, List.contains_iff_mem, List.contains_iff_mem]; exact h k hk

/-- A | B = B | A -/
theorem union_comm (d : XDoc) (xs ys : List Key) : normalize d (xs ++ ys) = normalize d (ys ++ xs) :=
  normalize_ext d _ _ fun k _ => by rw [List.mem_append, List.mem_append, or_comm]

/-- A | A = A as node-sets: `xs ++ xs` has the canonical form of `xs` -/
theorem union_idem (d : XDoc) (xs : List Key) : normalize d (xs ++ xs) = normalize d xs :=
  normalize_ext d _ _ fun k _ => by rw [List.mem_append, or_self]

/-- (A | B) | C = A | (B | C) -/
theorem union_assoc (d : XDoc) (xs ys zs : List Key) :
    normalize d (normalize d (xs ++ ys) ++ zs) = normalize d (xs ++ normalize d (ys ++ zs)) :=
  normalize_ext d _ _ fun k hk => by simp only [List.mem_append, mem_normalize, hk, true_and, or_assoc]

theorem normalize_of_normal (d : XDoc) (xs : List Key) (h : xs.Sublist (allKeys d)) : normalize d xs = xs := by
  -- `xs` is a sub-list of its canonical form, which has no duplicates and no other members, so is at most as long
  have hs : xs.Sublist (normalize d xs) := by
    have := h.filter fun k => xs.contains k
    rwa [List.filter_eq_self.2 fun k hk => List.contains_iff_mem.2 hk] at this
  exact (hs.eq_of_length_le ((normalize_nodup d xs).length_le_of_subset fun k hk => ((mem_normalize d xs k).1 hk).2)).symm

/-- A | A = A on the nose, for a node-set in canonical form (`normalize_of_normal`) -/
theorem union_self (d : XDoc) (xs : List Key) (h : xs.Sublist (allKeys d)) : normalize d (xs ++ xs) = xs := by
  rw [union_idem, normalize_of_normal d xs h]

/-- count(A | B) <= count(A) + count(B) -/
theorem count_union_le (d : XDoc) (xs ys : List Key) :
    (normalize d (xs ++ ys)).length ≤ xs.length + ys.length :=
  List.length_append ▸ (normalize_nodup d _).length_le_of_subset fun k hk => ((mem_normalize d _ k).1 hk).2

theorem evalSteps_sublist (env : XPath.Env) : ∀ (steps : List Step) (ks r : List Key),
    ks.Sublist (allKeys env.doc) → evalSteps env steps ks = .ok r → r.Sublist (allKeys env.doc)
  | [], ks, r, hs, h => by simp only [evalSteps] at h; cases h; exact hs
  | st :: rest, ks, r, _, h => by
      simp only [evalSteps] at h
      split at h
      · cases h
      · exact evalSteps_sublist env rest _ r normalize_sublist h

/-- the only node-set a core function returns is the empty one (id() on a document without DOCTYPE) -/
theorem applyFunc_nodes_empty {env : XPath.Env} {c : Ctx} {name : String} {vs : List Value} {ks : List Key}
    (h : applyFunc env c name vs = .ok (.nodes ks)) : ks = [] := by
  unfold applyFunc at h
  dsimp only at h
  -- by function name, then by the shape of the arguments where the function looks at it: only `id` is left
  split at h
  all_goals first | cases h | split at h
  all_goals cases h
  rfl

/-- whatever expression produced it: a node-set value lists nodes of the document in document order,
    each at most once -/
theorem eval_nodeset_normal (env : XPath.Env) (e : Expr) (c : Ctx) (ks : List Key)
    (h : eval env e c = .ok (.nodes ks)) : ks.Sublist (allKeys env.doc) := by
  -- in every construct the cases that do yield a node-set end in `normalize`, in `evalSteps` from a normalised set, or in `id()`
  cases e with
  | lit s => simp only [eval] at h; cases h
  | num s => simp only [eval] at h; cases h
  | var q => simp only [eval] at h; cases h
  | neg e => simp only [eval] at h; split at h <;> cases h
  | bin op a b =>
    by_cases h1 : op = .or
    · subst h1; simp only [eval] at h; repeat' split at h
      all_goals cases h
    · by_cases h2 : op = .and
      · subst h2; simp only [eval] at h; repeat' split at h
        all_goals cases h
      · simp only [eval] at h
        repeat' split at h
        all_goals cases h
        exact normalize_sublist
  | call f args =>
    simp only [eval] at h
    repeat' split at h
    all_goals first
      | cases h
      | (cases applyFunc_nodes_empty h; exact List.nil_sublist _)
  | filter e preds =>
    simp only [eval] at h
    repeat' split at h
    all_goals cases h
    exact normalize_sublist
  | path start abs steps =>
    cases start <;> simp only [eval] at h <;> (repeat' split at h) <;> cases h
    all_goals exact evalSteps_sublist env steps _ _ normalize_sublist ‹_›

theorem eval_nodeset_sorted (env : XPath.Env) (e : Expr) (c : Ctx) (ks : List Key)
    (h : eval env e c = .ok (.nodes ks)) : ks.Pairwise KLt ∧ ks.Nodup :=
  ⟨(allKeys_pairwise env.doc).sublist (eval_nodeset_normal env e c ks h),
   (allKeys_nodup env.doc).sublist (eval_nodeset_normal env e c ks h)⟩

theorem filter_counts_doc_order (env : XPath.Env) (e p : Expr) (c : Ctx) (ks : List Key)
    (h : eval env e c = .ok (.nodes ks)) :
    eval env (.filter e [p]) c = (match filterOne env p ks 1 ks.length with
      | .ok kept => .ok (.nodes (normalize env.doc kept))
      | .error x => .error x) := by
  simp only [eval, h, filterPreds, Bool.false_eq_true, if_false]
  cases filterOne env p ks 1 ks.length <;> rfl

/-- non-vacuity: an element with an attribute and a text child gives four keys in a non-trivial order -/
example : allKeys { kids := [.elem ⟨none, ['a']⟩ [] [(⟨none, ['x']⟩, ['1'])] [.text ['t']]] } = [[], [2], [2, 1, 0], [2, 2]] := by
  decide

end XmlRs.C07
