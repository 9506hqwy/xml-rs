import XmlRsModel.XPath.Eval
import XmlRsModel.Lemmas.PegSound
import XmlRsModel.Gen.XPathFuncs
/-! Property C06: XPath parsing and evaluation are total.
    The model's parser is the fuel interpreter of the grammar generated from `xpath/src/expr/mod.rs`;
    its evaluator is defined by structural recursion on the expression (Lean's termination checker
    accepts it: that acceptance IS the termination proof) into `Except XPErr Value` — there is no
    panic outcome to reach.  Stated here: what the unsupported features and the empty selections
    evaluate to, and that a parser answer does not depend on the fuel.
    Not provable on a model (measured by the check): running time and stack use of the real code. -/
namespace XmlRs.C06
open XmlRs XmlRs.XPath

theorem variable_is_error (env : XPath.Env) (q : QN) (c : Ctx) : eval env (.var q) c = .error .unsupported := by
  rw [eval]

/-- id() is reported as an error when the document has a DOCTYPE (the only case in which it could select
    anything), and is the empty node-set otherwise — whatever its argument evaluates to -/
theorem id_is_error_or_empty (env : XPath.Env) (c : Ctx) (vs : List Value) :
    applyFunc env c "id" vs = (if env.doc.hasDoctype then .error .unsupported else .ok (.nodes [])) := rfl

theorem unknown_function_is_error (env : XPath.Env) (c : Ctx) (name : Str) (args : List Expr)
    (h : funcTable.find? (·.1 == String.ofList name) = none) :
    eval env (.call ⟨none, name⟩ args) c = .error .nofunc := by
  simp only [eval, h]

/-- a call with too few or too many arguments is an error before any argument is evaluated -/
theorem arity_is_checked (env : XPath.Env) (c : Ctx) (name : Str) (args : List Expr) (lo : Nat) (hi : Option Nat)
    (h : funcTable.find? (·.1 == String.ofList name) = some (String.ofList name, lo, hi))
    (hbad : args.length < lo ∨ (∃ m, hi = some m ∧ args.length > m)) :
    eval env (.call ⟨none, name⟩ args) c = .error .arity := by
  simp only [eval, h]
  rcases hbad with hl | ⟨m, rfl, hm⟩
  · simp only [hl, decide_true, Bool.true_or, if_true]
  · simp only [hm, decide_true, Bool.or_true, if_true]

/-- the table of the core library the model evaluates with IS the table the evaluator's source declares (names, least and
    greatest number of arguments; `Gen/XPathFuncs.lean` is regenerated from xpath/src/eval/func.rs on every run): a function added,
    dropped or given another arity in the source breaks this statement -/
theorem arity_table_is_the_sources : funcTable = Gen.XPathFuncs.table := rfl

theorem unbound_prefix_is_error (env : XPath.Env) (a : Axis) (p l : Str) (k : Key)
    (h : bindingOf env (some p) = none) :
    nodeTest env a (.nsAny p) k = .error .nons ∧
    (kindOf env.doc k = principal a → nodeTest env a (.name ⟨some p, l⟩) k = .error .nons) := by
  constructor
  · simp only [nodeTest, h]
  · intro hk; simp only [nodeTest, h, hk, bne_self_eq_false, Bool.false_eq_true, if_false]

theorem parent_of_root_empty (d : XDoc) : axisKeys d .parent [] = [] := rfl

/-- the owner of the `i`-th namespace (`c = 0`) or attribute (`c = 1`) node of the element with key `k` -/
theorem parentKey_an (k : Key) (c i : Nat) (hk : k ≠ []) (hc : c = 0 ∨ c = 1) : parentKey (k ++ [c, i]) = some k := by
  obtain ⟨x, xs, rfl⟩ := List.exists_cons_of_ne_nil hk
  have hn : (x :: xs ++ [c, i]).length = (x :: xs).length + 2 := List.length_append
  have hg : (x :: xs ++ [c, i]).getD (x :: xs).length 9 = c := by
    rw [List.getD_eq_getElem?_getD, List.getElem?_append_right (Nat.le_refl _), Nat.sub_self]; rfl
  rw [List.cons_append, parentKey, ← List.cons_append]
  · simp only [hn, Nat.add_sub_cancel, hg, List.take_left']
    -- the length is `xs.length + 3`: both length tests compute to `true`
    rcases hc with rfl | rfl <;> rfl
  · exact nofun

theorem parent_of_attribute_is_owner (d : XDoc) (k : Key) (i : Nat) (hk : k ≠ []) :
    axisKeys d .parent (k ++ [1, i]) = [k] ∧ axisKeys d .parent (k ++ [0, i]) = [k] := by
  simp only [axisKeys, parentKey_an k _ i hk (.inr rfl), parentKey_an k _ i hk (.inl rfl), and_self]

/-- the axes never fail: every axis from every node is a list (possibly empty) -/
theorem axis_total (d : XDoc) (a : Axis) (k : Key) : ∃ l : List Key, axisKeys d a k = l := ⟨_, rfl⟩

theorem parse_answer_stable (f f' : Nat) (hle : f ≤ f') (s : Str) (out : Res CST)
    (h : run Gen.XPath.env f (.nt Gen.XPath.N.parse) s = out) (hne : out ≠ .fuel) :
    run Gen.XPath.env f' (.nt Gen.XPath.N.parse) s = out := run_mono_le _ hle h hne

end XmlRs.C06
