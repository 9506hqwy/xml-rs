import XmlRsModel.XPath.Eval
import XmlRsModel.XPath.Safe
/-! Property C10: namespaces resolve per Namespaces in XML; name tests match expanded names.
    `inScope` (in-scope namespaces of an element from its own declarations and the inherited ones),
    `expandedName` and `nodeTest` are characterised: nearest declaration wins, the default namespace
    applies to unprefixed elements and never to attributes, `xmlns=""` undeclares it, `xml` stays
    bound, and a name test looks only at the expanded name — never at the prefix the document uses. -/
namespace XmlRs.C10
open XmlRs XmlRs.XPath

theorem mem_inScope {own inh : List (Str × Str)} {b : Str × Str} :
    b ∈ inScope own inh ↔ (b ∈ own ∨ b ∈ inh ∧ ∀ x ∈ own, x.1 ≠ b.1) ∧ ¬ (b.1.isEmpty ∧ b.2.isEmpty) := by
  simp only [inScope, List.mem_filter, List.mem_append, Bool.not_eq_true', List.any_eq_false, beq_iff_eq,
    ← Bool.and_eq_true, Bool.not_eq_true, ne_eq]

theorem inScope_own_wins (own inh : List (Str × Str)) (p u : Str) (hu : ¬ (p.isEmpty ∧ u.isEmpty))
    (h : (p, u) ∈ own) : (p, u) ∈ inScope own inh :=
  mem_inScope.2 ⟨.inl h, hu⟩

theorem inScope_inherits (own inh : List (Str × Str)) (p u : Str) (hu : ¬ (p.isEmpty ∧ u.isEmpty))
    (h : (p, u) ∈ inh) (hno : ∀ v, (p, v) ∉ own) : (p, u) ∈ inScope own inh :=
  mem_inScope.2 ⟨.inr ⟨h, by rintro ⟨_, v⟩ hx rfl; exact hno v hx⟩, hu⟩

theorem inScope_shadows (own inh : List (Str × Str)) (p u v : Str) (h : (p, v) ∈ own) (hne : ∀ w, (p, w) ∈ own → w ≠ u) :
    (p, u) ∉ inScope own inh :=
  fun hm => (mem_inScope.1 hm).1.elim (hne u · rfl) (·.2 _ h rfl)

theorem empty_default_undeclares (own inh : List (Str × Str)) (h : ([], []) ∈ own)
    (honly : ∀ w, ([], w) ∈ own → w = []) (u : Str) : ([], u) ∉ inScope own inh :=
  fun hm => (mem_inScope.1 hm).1.elim (fun h1 => (mem_inScope.1 hm).2 ⟨rfl, congrArg List.isEmpty (honly u h1)⟩) (·.2 _ h rfl)

theorem xml_stays_bound (own inh : List (Str × Str)) (h : ("xml".toList, xmlNsUri) ∈ inh)
    (hno : ∀ v, ("xml".toList, v) ∉ own) : ("xml".toList, xmlNsUri) ∈ inScope own inh :=
  inScope_inherits own inh _ _ (by decide) h hno

theorem xml_bound_at_the_root : ("xml".toList, xmlNsUri) ∈ defaultScope := .head _

theorem default_not_for_attributes (d : XDoc) (k : Key) (owner : XNode) (l v : Str)
    (h : lookup d k = some (.attr owner ⟨none, l⟩ v)) : expandedName d k = some (l, []) := by
  rw [expandedName, h]

/-- an unprefixed element is in the default namespace that is in scope on it (none: no namespace) -/
theorem default_for_elements (d : XDoc) (k : Key) (l : Str) (ns : List (Str × Str)) (as : List (QN × Str)) (ks : List XNode)
    (h : lookup d k = some (.node (.elem ⟨none, l⟩ ns as ks))) :
    expandedName d k = some (l, ((ns.find? (·.1.isEmpty)).map (·.2)).getD []) := by
  rw [expandedName, h]

theorem prefixed_element (d : XDoc) (k : Key) (p l : Str) (ns : List (Str × Str)) (as : List (QN × Str)) (ks : List XNode)
    (h : lookup d k = some (.node (.elem ⟨some p, l⟩ ns as ks))) :
    expandedName d k = some (l, ((ns.find? (·.1 == p)).map (·.2)).getD []) := by
  rw [expandedName, h]

/-- name tests compare EXPANDED names with the caller's bindings: two documents (or two nodes) that
    agree on node kind and expanded name give the same answer to every name test, whatever prefixes
    they use — so renaming prefixes consistently in a document cannot change a result -/
theorem nametest_sees_only_expanded_names (env env' : XPath.Env) (a : Axis) (t : NodeTest) (k k' : Key)
    (hns : env.ns = env'.ns)
    (hkind : kindOf env.doc k = kindOf env'.doc k')
    (hname : expandedName env.doc k = expandedName env'.doc k') :
    nodeTest env a t k = nodeTest env' a t k' := by
  cases t <;> simp only [nodeTest, bindingOf, hns, hkind, hname]

/-- renaming a prefix in the expression together with the caller's binding for it changes no name test:
    only the URI the prefix is bound to enters the test -/
theorem nametest_prefix_irrelevant (env env' : XPath.Env) (a : Axis) (p p' l : Str) (k : Key)
    (hdoc : env.doc = env'.doc) (hb : bindingOf env (some p) = bindingOf env' (some p')) :
    nodeTest env a (.name ⟨some p, l⟩) k = nodeTest env' a (.name ⟨some p', l⟩) k ∧
    nodeTest env a (.nsAny p) k = nodeTest env' a (.nsAny p') k := by
  simp only [nodeTest, hdoc, hb, and_self]

/-! ### the renaming clause on the DOCUMENT side: "results do not change when prefixes are renamed
    consistently in the document".  `renDoc ρ d` renames every prefix of `d` - on element names, on attribute
    names and in the in-scope namespaces of every element - by an injective `ρ` that keeps "no prefix" apart
    from every prefix (`ρ [] = []`).  Every key then denotes a node of the same kind with the same expanded
    name, the document has the same keys in the same order, and so every node test answers as before for every
    node other than a namespace node (whose expanded name IS the prefix: `namespace::p` is the one test the
    renaming is allowed to change, and the checks exempt it for that reason). -/

def renQ (ρ : Str → Str) (q : QN) : QN := ⟨q.pre.map ρ, q.loc⟩
def renNs (ρ : Str → Str) (b : Str × Str) : Str × Str := (ρ b.1, b.2)
def renAt (ρ : Str → Str) (a : QN × Str) : QN × Str := (renQ ρ a.1, a.2)

mutual
def renNode (ρ : Str → Str) : XNode → XNode
  | .elem q ns as ks => .elem (renQ ρ q) (ns.map (renNs ρ)) (as.map (renAt ρ)) (renNodes ρ ks)
  | .text s => .text s
  | .comment s => .comment s
  | .pi t s => .pi t s
def renNodes (ρ : Str → Str) : List XNode → List XNode
  | [] => []
  | n :: r => renNode ρ n :: renNodes ρ r
end

def renDoc (ρ : Str → Str) (d : XDoc) : XDoc := { d with kids := renNodes ρ d.kids }

def renTarget (ρ : Str → Str) : Target → Target
  | .root => .root
  | .node n => .node (renNode ρ n)
  | .attr o q v => .attr (renNode ρ o) (renQ ρ q) v
  | .ns o p u => .ns (renNode ρ o) (ρ p) u

theorem renNodes_map (ρ : Str → Str) : ∀ ks, renNodes ρ ks = ks.map (renNode ρ)
  | [] => rfl
  | n :: r => by rw [renNodes, renNodes_map ρ r, List.map_cons]

theorem renNode_kids (ρ : Str → Str) (n : XNode) : (renNode ρ n).kids = renNodes ρ n.kids := by
  cases n <;> rfl

theorem renNode_attrs (ρ : Str → Str) (n : XNode) : (renNode ρ n).attrs = n.attrs.map (renAt ρ) := by
  cases n <;> rfl

theorem renNode_nss (ρ : Str → Str) (n : XNode) : (renNode ρ n).nss = n.nss.map (renNs ρ) := by
  cases n <;> rfl

theorem lookupIn_ren (ρ : Str → Str) : ∀ (ks : List XNode) (k : Key),
    lookupIn (renNodes ρ ks) k = (lookupIn ks k).map (renTarget ρ)
  | _, [] => rfl
  | ks, [i] => by
    simp only [lookupIn, renNodes_map, List.getElem?_map, apply_ite (Option.map (renTarget ρ)), Option.map_map, Option.map_none]
    rfl
  | ks, i :: j :: r => by
    -- `apply_ite`: the map on the right goes inside the conditionals, branch against branch
    simp only [lookupIn, renNodes_map, List.getElem?_map, apply_ite (Option.map (renTarget ρ)), Option.map_none]
    cases ks[i - 2]? with
    | none => rfl
    | some n =>
      simp only [Option.map_some, renNode_nss, renNode_attrs, renNode_kids, lookupIn_ren ρ n.kids,
        apply_ite (Option.map (renTarget ρ))]
      match r with
      | [k] => simp only [List.getElem?_map, Option.map_map]; rfl
      | [] | _ :: _ :: _ => rfl

theorem lookup_ren (ρ : Str → Str) (d : XDoc) (k : Key) : lookup (renDoc ρ d) k = (lookup d k).map (renTarget ρ) := by
  cases k with
  | nil => rfl
  | cons i r => exact lookupIn_ren ρ d.kids (i :: r)

theorem renTarget_kind (ρ : Str → Str) (t : Target) : (renTarget ρ t).kind = t.kind := by
  cases t with
  | node n => cases n <;> rfl
  | _ => rfl

theorem kindOf_ren (ρ : Str → Str) (d : XDoc) (k : Key) : kindOf (renDoc ρ d) k = kindOf d k := by
  simp only [kindOf, lookup_ren]
  cases lookup d k with
  | none => rfl
  | some t => exact renTarget_kind ρ t

theorem keysOf_ren (ρ : Str → Str) (w : Bool) : ∀ (n : XNode) (k : Key), keysOf w k (renNode ρ n) = keysOf w k n
  | .elem q ns as ks, k => by
    simp only [renNode, keysOf, List.length_map, keysOfL_ren ρ w ks]
  | .text _, _ => rfl
  | .comment _, _ => rfl
  | .pi _ _, _ => rfl
where keysOfL_ren (ρ : Str → Str) (w : Bool) : ∀ (l : List XNode) (k : Key) (i : Nat), keysOfL w k i (renNodes ρ l) = keysOfL w k i l
  | [], _, _ => rfl
  | n :: r, k, i => by simp only [renNodes, keysOfL, keysOf_ren ρ w n, keysOfL_ren ρ w r]

theorem allKeys_ren (ρ : Str → Str) (d : XDoc) : allKeys (renDoc ρ d) = allKeys d :=
  congrArg ([] :: ·) (keysOf_ren.keysOfL_ren ρ true d.kids [] 0)

/-- what `ρ` must satisfy to be a consistent renaming: different prefixes stay different, and "no prefix" (the
    default namespace's entry, prefix `[]`) is kept apart from every prefix -/
structure Consistent (ρ : Str → Str) : Prop where
  inj : ∀ a b, ρ a = ρ b → a = b
  nil : ρ [] = []

theorem Consistent.isEmpty {ρ : Str → Str} (h : Consistent ρ) (p : Str) : (ρ p).isEmpty = p.isEmpty := by
  rw [Bool.eq_iff_iff, List.isEmpty_iff, List.isEmpty_iff]
  exact ⟨fun e => h.inj p [] (e.trans h.nil.symm), fun e => e ▸ h.nil⟩

theorem beq_of_inj {α β : Type} [BEq α] [LawfulBEq α] [BEq β] [LawfulBEq β] {f : α → β} (h : ∀ a b, f a = f b → a = b)
    (a b : α) : (f a == f b) = (a == b) := by
  rw [Bool.eq_iff_iff, beq_iff_eq, beq_iff_eq]
  exact ⟨h a b, congrArg f⟩

theorem find?_map_map {α β γ : Type} (g : α → β) {p : β → Bool} {q : α → Bool} {f : β → γ} {f' : α → γ}
    (hp : ∀ a, p (g a) = q a) (hf : ∀ a, f (g a) = f' a) (l : List α) :
    ((l.map g).find? p).map f = (l.find? q).map f' := by
  rw [List.find?_map, Option.map_map, show p ∘ g = q from funext hp, show f ∘ g = f' from funext hf]

theorem find_ren {ρ : Str → Str} (h : Consistent ρ) (p : Str) (ns : List (Str × Str)) :
    ((ns.map (renNs ρ)).find? (·.1 == ρ p)).map (·.2) = (ns.find? (·.1 == p)).map (·.2) :=
  find?_map_map (renNs ρ) (fun b => beq_of_inj h.inj b.1 p) (fun _ => rfl) ns

theorem findDefault_ren {ρ : Str → Str} (h : Consistent ρ) (ns : List (Str × Str)) :
    ((ns.map (renNs ρ)).find? (·.1.isEmpty)).map (·.2) = (ns.find? (·.1.isEmpty)).map (·.2) :=
  find?_map_map (renNs ρ) (fun b => h.isEmpty b.1) (fun _ => rfl) ns

/-- RENAMING THE DOCUMENT'S PREFIXES: a namespace node's expanded name has the prefix as its local part, which is renamed;
    every other node keeps its expanded name -/
theorem expandedName_renDoc {ρ : Str → Str} (h : Consistent ρ) (d : XDoc) (k : Key) :
    expandedName (renDoc ρ d) k =
      if kindOf d k = .ns then (expandedName d k).map fun x => (ρ x.1, x.2) else expandedName d k := by
  rw [kindOf]
  simp only [expandedName, lookup_ren]
  cases lookup d k with
  | none => rfl
  | some t =>
    cases t with
    | root => rfl
    | ns o p u => rfl
    | attr o q v =>
      obtain ⟨_ | p, l⟩ := q
      · rfl
      · simp only [Option.map_some, renTarget, renQ, renNode_nss, find_ren h]; rfl
    | node n =>
      cases n with
      | elem q ns as ks =>
        obtain ⟨_ | p, l⟩ := q
        · simp only [Option.map_some, renTarget, renNode, renQ, Option.map_none, findDefault_ren h]; rfl
        · simp only [Option.map_some, renTarget, renNode, renQ, find_ren h]; rfl
      | _ => rfl

theorem expandedName_ren {ρ : Str → Str} (h : Consistent ρ) (d : XDoc) (k : Key) (hk : kindOf d k ≠ .ns) :
    expandedName (renDoc ρ d) k = expandedName d k :=
  (expandedName_renDoc h d k).trans (if_neg hk)

theorem expandedUri_ren {ρ : Str → Str} (h : Consistent ρ) (d : XDoc) (k : Key) :
    (expandedName (renDoc ρ d) k).map (·.2) = (expandedName d k).map (·.2) := by
  rw [expandedName_renDoc h]
  split
  · exact Option.map_map ..
  · rfl

/-- EVERY node test gives the same answer for a node other than a namespace node, on every axis, whatever the caller's
    bindings: a name test cannot tell the renamed document from the original -/
theorem nodeTest_ren {ρ : Str → Str} (h : Consistent ρ) (env : XPath.Env) (a : Axis) (t : NodeTest) (k : Key)
    (hk : kindOf env.doc k ≠ .ns) :
    nodeTest { env with doc := renDoc ρ env.doc } a t k = nodeTest env a t k :=
  nametest_sees_only_expanded_names _ env a t k k rfl (kindOf_ren ρ env.doc k) (expandedName_ren h env.doc k hk)

theorem textDesc_ren (ρ : Str → Str) : ∀ n : XNode, textDesc (renNode ρ n) = textDesc n
  | .elem _ _ _ ks => by simp only [renNode, textDesc]; exact textDescL_ren ρ ks
  | .text _ => rfl
  | .comment _ => rfl
  | .pi _ _ => rfl
where textDescL_ren (ρ : Str → Str) : ∀ l : List XNode, textDescL (renNodes ρ l) = textDescL l
  | [] => rfl
  | n :: r => by simp only [renNodes, textDescL, textDesc_ren ρ n, textDescL_ren ρ r]

/-- namespace nodes included: their string-value is the URI -/
theorem strVal_ren (ρ : Str → Str) (d : XDoc) (k : Key) : strVal (renDoc ρ d) k = strVal d k := by
  simp only [strVal, lookup_ren]
  cases lookup d k with
  | none => rfl
  | some t =>
    cases t with
    | root => exact textDesc_ren.textDescL_ren ρ d.kids
    | node n =>
      cases n with
      | elem q ns as ks => exact textDesc_ren.textDescL_ren ρ ks
      | _ => rfl
    | attr o q v => rfl
    | ns o p u => rfl

/-- the hypotheses are met by a renaming that is not the identity: `p` and `pp` change places, everything else stays -/
def exRho (s : Str) : Str := if s = ['p'] then ['p', 'p'] else if s = ['p', 'p'] then ['p'] else s

-- `exRho` swaps two prefixes: it is its own inverse, hence injective
theorem exRho_consistent : Consistent exRho := by
  have inv : ∀ s, exRho (exRho s) = s := fun s => by
    by_cases h1 : s = ['p']
    · subst h1; rfl
    · by_cases h2 : s = ['p', 'p']
      · subst h2; rfl
      · have e : exRho s = s := by rw [exRho, if_neg h1, if_neg h2]
        rw [e, e]
  exact ⟨fun a b e => by rw [← inv a, e, inv b], rfl⟩

example : Consistent exRho := exRho_consistent

def exDoc : XDoc := { kids := [.elem ⟨some ['p'], ['a']⟩ [(['p'], ['u']), ([], ['d'])] [(⟨some ['p'], ['x']⟩, ['1'])] [.elem ⟨none, ['b']⟩ [(['p'], ['u']), ([], ['d'])] [] []]] }
example : expandedName exDoc [2] = some (['a'], ['u']) ∧ expandedName (renDoc exRho exDoc) [2] = some (['a'], ['u']) ∧
    expandedName (renDoc exRho exDoc) [2, 1, 0] = some (['x'], ['u']) ∧ expandedName (renDoc exRho exDoc) [2, 2] = some (['b'], ['d']) ∧
    qnameOf (renDoc exRho exDoc) [2] = ['p', 'p', ':', 'a'] := ⟨rfl, rfl, rfl, rfl, rfl⟩

/-! ### what the evaluator can observe of a document
    Two documents that agree on keys and their order, the child / attribute / namespace keys of every node, kinds,
    string-values, `xml:lang`, the two flags `hasDoctype` and `negZeroQuirk`, the expanded names of everything but namespace
    nodes and the URI part of every expanded name - give the same value to every expression that does not ask for a QName as written (`name()`), for the local
    part of a namespace node's name (`local-name()`, which IS the prefix there) and does not put a name test on the
    namespace axis (`eval_congr` below). -/

structure Alike (d d' : XDoc) : Prop where
  keys : allKeys d' = allKeys d
  child : childKeys d' = childKeys d
  attr : attrKeys d' = attrKeys d
  nss : nsKeys d' = nsKeys d
  kind : kindOf d' = kindOf d
  sval : strVal d' = strVal d
  lang : xmlLangOf d' = xmlLangOf d
  dt : d'.hasDoctype = d.hasDoctype
  nz : d'.negZeroQuirk = d.negZeroQuirk
  name : ∀ k, kindOf d k ≠ .ns → expandedName d' k = expandedName d k
  uri : ∀ k, (expandedName d' k).map (·.2) = (expandedName d k).map (·.2)

theorem Alike.of_eq {d d' : XDoc} (h : d' = d) : Alike d d' := by
  subst h
  exact { keys := rfl, child := rfl, attr := rfl, nss := rfl, kind := rfl, sval := rfl, lang := rfl, dt := rfl, nz := rfl,
          name := fun _ _ => rfl, uri := fun _ => rfl }

theorem Alike.axis {d d' : XDoc} (h : Alike d d') : axisKeys d' = axisKeys d := by
  funext a c
  simp only [axisKeys, h.keys, h.child, h.attr, h.nss]

theorem Alike.norm {d d' : XDoc} (h : Alike d d') : normalize d' = normalize d := by
  funext ks; simp only [normalize, h.keys]

theorem Alike.toStr {d d' : XDoc} (h : Alike d d') : toStr d' = toStr d := by
  funext v; cases v <;> simp only [XPath.toStr, h.nz, h.sval]

theorem Alike.toNum {d d' : XDoc} (h : Alike d d') : toNum d' = toNum d := by
  funext v; cases v <;> simp only [XPath.toNum, h.toStr]

theorem Alike.cmpScalar {d d' : XDoc} (h : Alike d d') : cmpScalar d' = cmpScalar d := by
  funext op a b; simp only [XPath.cmpScalar, h.toStr, h.toNum]

theorem Alike.compare {d d' : XDoc} (h : Alike d d') : compare d' = compare d := by
  funext op a b; simp only [XPath.compare, h.cmpScalar, h.sval]

theorem Alike.langF {d d' : XDoc} (h : Alike d d') : langF d' = langF d := by
  funext c arg; simp only [XPath.langF, h.keys, h.lang]

theorem principal_ns (a : Axis) (h : a ≠ .namespace) : principal a ≠ .ns := by
  cases a <;> first | exact absurd rfl h | exact nofun

theorem Alike.nodeTest {env env' : XPath.Env} (h : Alike env.doc env'.doc) (hns : env'.ns = env.ns) (a : Axis) (t : NodeTest) (k : Key)
    (hs : ¬ (a = .namespace ∧ isNameTest t = true)) : nodeTest env' a t k = nodeTest env a t k := by
  by_cases hk : kindOf env.doc k = .ns
  · -- of a namespace node only the URI part of the name is the same
    cases t with
    | name q =>
      -- it is not of the principal node type of any axis but `namespace`: the name is never looked at
      have hne : kindOf env.doc k ≠ principal a := hk ▸ (principal_ns a fun e => hs ⟨e, rfl⟩).symm
      cases hq : q.pre with
      | some p => simp only [XPath.nodeTest, h.kind, hq, bne_iff_ne.2 hne, if_true]
      | none => simp only [XPath.nodeTest, h.kind, hq, beq_false_of_ne hne, Bool.false_and]
    | pi o =>
      cases o with
      | none => simp only [XPath.nodeTest, h.kind]
      | some lit => simp only [XPath.nodeTest, h.kind, hk]; rfl   -- `Kind.ns == Kind.pi` computes to `false`
    | nsAny p => simp only [XPath.nodeTest, bindingOf, hns, h.kind, h.uri]
    | _ => simp only [XPath.nodeTest, h.kind]
  · exact nametest_sees_only_expanded_names env' env a t k k hns (congrFun h.kind k) (h.name k hk)

-- the core library reads a document through its string-values, `xml:lang`, the DOCTYPE flag and the URI parts of
-- names - and, in `name()` and `local-name()` alone, through names as written
theorem Alike.applyFunc {env env' : XPath.Env} (h : Alike env.doc env'.doc) (c : Ctx) (name : String) (args : List Value)
    (hs : showsPrefix name = false) : applyFunc env' c name args = applyFunc env c name args := by
  have h1 : name ≠ "name" := fun e => by subst e; cases hs
  have h2 : name ≠ "local-name" := fun e => by subst e; cases hs
  unfold XPath.applyFunc
  dsimp only
  rw [h.toStr, h.toNum, h.sval, h.langF, h.dt]
  split <;> first | rfl | exact absurd rfl h1 | exact absurd rfl h2 | simp only [h.uri]

theorem childKeys_ren (ρ : Str → Str) (d : XDoc) : childKeys (renDoc ρ d) = childKeys d := by
  funext k
  simp only [childKeys, lookup_ren]
  cases lookup d k with
  | none => rfl
  | some t => cases t <;> simp only [Option.map_some, renTarget, renDoc, renNode_kids, renNodes_map, List.length_map]

theorem attrKeys_ren (ρ : Str → Str) (d : XDoc) : attrKeys (renDoc ρ d) = attrKeys d := by
  funext k
  simp only [attrKeys, lookup_ren]
  cases lookup d k with
  | none => rfl
  | some t => cases t <;> simp only [Option.map_some, renTarget, renNode_attrs, List.length_map]

theorem nsKeys_ren (ρ : Str → Str) (d : XDoc) : nsKeys (renDoc ρ d) = nsKeys d := by
  funext k
  simp only [nsKeys, lookup_ren]
  cases lookup d k with
  | none => rfl
  | some t => cases t <;> simp only [Option.map_some, renTarget, renNode_nss, List.length_map]

def xmlP : Str := ['x', 'm', 'l']

theorem xmlLangOf_ren {ρ : Str → Str} (h : Consistent ρ) (hx : ρ xmlP = xmlP) (d : XDoc) : xmlLangOf (renDoc ρ d) = xmlLangOf d := by
  funext k
  simp only [xmlLangOf, lookup_ren]
  cases lookup d k with
  | none => rfl
  | some t =>
    cases t with
    | node n =>
      cases n with
      | elem q ns as ks =>
        refine find?_map_map (renAt ρ) (fun a => congrArg (· && _) ?_) (fun _ => rfl) as
        -- `xml` is its own image, so a prefix is renamed to `xml` only if it was `xml`
        have := beq_of_inj (fun _ _ => (Option.map_inj_right h.inj).1) a.1.pre (some xmlP)
        rwa [Option.map_some, hx] at this
      | _ => rfl
    | _ => rfl

theorem renDoc_alike {ρ : Str → Str} (h : Consistent ρ) (hx : ρ xmlP = xmlP) (d : XDoc) : Alike d (renDoc ρ d) where
  keys := allKeys_ren ρ d
  child := childKeys_ren ρ d
  attr := attrKeys_ren ρ d
  nss := nsKeys_ren ρ d
  kind := funext (kindOf_ren ρ d)
  sval := funext (strVal_ren ρ d)
  lang := xmlLangOf_ren h hx d
  dt := rfl
  nz := rfl
  name := expandedName_ren h d
  uri := expandedUri_ren h d

/-! ### the renaming clause on the EXPRESSION side
    `renE σ e` renames every prefix that the expression uses - in name tests `p:l` and `p:*` and in function names -
    by `σ`; the caller's bindings are renamed with it. -/

def renT (σ : Str → Str) : NodeTest → NodeTest
  | .nsAny p => .nsAny (σ p)
  | .name q => .name ⟨q.pre.map σ, q.loc⟩
  | .any => .any
  | .comment => .comment
  | .text => .text
  | .node => .node
  | .pi t => .pi t

mutual
def renE (σ : Str → Str) : Expr → Expr
  | .bin op a b => .bin op (renE σ a) (renE σ b)
  | .neg e => .neg (renE σ e)
  | .lit s => .lit s
  | .num s => .num s
  | .var q => .var q
  | .call f args => .call ⟨f.pre.map σ, f.loc⟩ (renEs σ args)
  | .filter e ps => .filter (renE σ e) (renEs σ ps)
  | .path (some e) ab steps => .path (some (renE σ e)) ab (renSs σ steps)
  | .path none ab steps => .path none ab (renSs σ steps)
def renEs (σ : Str → Str) : List Expr → List Expr
  | [] => []
  | e :: r => renE σ e :: renEs σ r
def renS (σ : Str → Str) : Step → Step
  | .mk a t ps => .mk a (renT σ t) (renEs σ ps)
def renSs (σ : Str → Str) : List Step → List Step
  | [] => []
  | s :: r => renS σ s :: renSs σ r
end

theorem renEs_length (σ : Str → Str) : ∀ l, (renEs σ l).length = l.length
  | [] => rfl
  | _ :: r => by rw [renEs, List.length_cons, renEs_length σ r, List.length_cons]

theorem renT_id (t : NodeTest) : renT id t = t := by
  cases t with
  | name q => obtain ⟨_ | _, _⟩ := q <;> rfl
  | _ => rfl

/-- the caller's bindings renamed together with the expression: every prefix is bound, under its new name, to what it was
    bound to; the default binding is untouched; the document is the same -/
structure Rebound (σ : Str → Str) (env env' : XPath.Env) : Prop where
  doc : env'.doc = env.doc
  pre : ∀ p, bindingOf env' (some (σ p)) = bindingOf env (some p)
  dflt : bindingOf env' none = bindingOf env none

theorem Rebound.nodeTest {σ : Str → Str} {env env' : XPath.Env} (h : Rebound σ env env') (a : Axis) (t : NodeTest) (k : Key) :
    nodeTest env' a (renT σ t) k = nodeTest env a t k := by
  cases t with
  | name q =>
    cases hq : q.pre with
    | none => simp only [renT, XPath.nodeTest, hq, Option.map_none, h.doc, h.dflt]
    | some p => simp only [renT, XPath.nodeTest, hq, Option.map_some, h.doc, h.pre]
  | nsAny p => simp only [renT, XPath.nodeTest, h.doc, h.pre]
  | pi o => cases o <;> simp only [renT, XPath.nodeTest, h.doc]
  | _ => simp only [renT, XPath.nodeTest, h.doc]

theorem applyFunc_doc {env env' : XPath.Env} (h : env'.doc = env.doc) (c : Ctx) (name : String) (args : List Value) :
    applyFunc env' c name args = applyFunc env c name args := by
  unfold XPath.applyFunc; rw [h]

def renB (σ : Str → Str) (ns : List (Option Str × Str)) : List (Option Str × Str) := ns.map fun b => (b.1.map σ, b.2)

theorem find_renB {σ : Str → Str} (hinj : ∀ a b, σ a = σ b → a = b) (q : Option Str) (ns : List (Option Str × Str)) :
    ((renB σ ns).find? (·.1 == q.map σ)).map (·.2) = (ns.find? (·.1 == q)).map (·.2) :=
  find?_map_map _ (fun b => beq_of_inj (fun _ _ => (Option.map_inj_right hinj).1) b.1 q) (fun _ => rfl) ns

theorem rebound_of_renB {σ : Str → Str} (hinj : ∀ a b, σ a = σ b → a = b) (env : XPath.Env) :
    Rebound σ env { env with ns := renB σ env.ns } where
  doc := rfl
  pre := fun p => find_renB hinj (some p) env.ns
  dflt := find_renB hinj none env.ns

/-! ### through the evaluator
    Both renaming clauses are instances of one statement, `eval env' (renE σ e) c = eval env e c`, proved by one induction
    over `eval`, `evalArgs`, `evalSteps`, `evalStep` and `filterPreds`: the environments need only agree on what an
    evaluation observes (`Sim`).  On the document side (`σ = id`, alike documents) node tests and functions agree for
    those that `safeE` admits, so the expression must be safe (`s` is `True`); on the expression side (same document,
    bindings renamed by `σ`) they agree without exception and every expression is covered (`s` is `False`). -/

structure Sim (σ : Str → Str) (s : Prop) (env env' : XPath.Env) : Prop where
  doc : Alike env.doc env'.doc
  pre : ∀ p, bindingOf env' (some (σ p)) = bindingOf env (some p)
  test : ∀ a t, (s → ¬ (a = .namespace ∧ isNameTest t = true)) → ∀ k, nodeTest env' a (renT σ t) k = nodeTest env a t k
  func : ∀ name, (s → showsPrefix name = false) → ∀ c vs, applyFunc env' c name vs = applyFunc env c name vs

theorem Alike.sim {env env' : XPath.Env} (h : Alike env.doc env'.doc) (hns : env'.ns = env.ns) : Sim id True env env' where
  doc := h
  pre := fun p => by simp only [bindingOf, hns, id]
  test := fun a t hs k => (renT_id t).symm ▸ h.nodeTest hns a t k (hs trivial)
  func := fun name hs c vs => h.applyFunc c name vs (hs trivial)

theorem Rebound.sim {σ : Str → Str} {env env' : XPath.Env} (h : Rebound σ env env') : Sim σ False env env' where
  doc := .of_eq h.doc
  pre := h.pre
  test := fun a t _ => h.nodeTest a t
  func := fun name _ c => applyFunc_doc h.doc c name

theorem evalStepOn_congr {env env' : XPath.Env} {st st' : Step} (hst : ∀ k, evalStep env' st' k = evalStep env st k) :
    ∀ ks, evalStepOn env' st' ks = evalStepOn env st ks
  | [] => by simp only [evalStepOn]
  | k :: r => by simp only [evalStepOn, hst k, evalStepOn_congr hst r]

theorem filterOne_congr {env env' : XPath.Env} {p p' : Expr} (hp : ∀ c, eval env' p' c = eval env p c) :
    ∀ ks i n, filterOne env' p' ks i n = filterOne env p ks i n
  | [], _, _ => by simp only [filterOne]
  | k :: r, i, n => by simp only [filterOne, hp, filterOne_congr hp r]

theorem tests_congr {env env' : XPath.Env} {a : Axis} {t t' : NodeTest} (ht : ∀ x, nodeTest env' a t' x = nodeTest env a t x) :
    ∀ l, evalStep.tests env' a t' l = evalStep.tests env a t l
  | [] => by simp only [evalStep.tests]
  | x :: r => by simp only [evalStep.tests, ht x, tests_congr ht r]

set_option linter.unusedSectionVars false   -- `evalArgs_sim` and `filterPreds_sim` use `h` only through the other members
section
variable {σ : Str → Str} {s : Prop} {env env' : XPath.Env} (h : Sim σ s env env')
include h

mutual
theorem eval_sim : ∀ (e : Expr) (c : Ctx), (s → safeE e = true) → eval env' (renE σ e) c = eval env e c
  | .lit _, _, _ | .num _, _, _ | .var _, _, _ => by simp only [renE, eval]
  | .neg e, c, hs => by
    simp only [safeE] at hs
    simp only [renE, eval, eval_sim e c hs, h.doc.toNum]
  | .bin op a b, c, hs => by
    simp only [safeE, Bool.and_eq_true, imp_and] at hs
    have ha := eval_sim a c hs.1
    have hb := eval_sim b c hs.2
    -- `or` and `and` may stop after the left operand; every other operator evaluates both and combines the values
    by_cases h1 : op = .or
    · subst h1; simp only [renE, eval, ha, hb]
    · by_cases h2 : op = .and
      · subst h2; simp only [renE, eval, ha, hb]
      · simp only [renE, eval, ha, hb, h.doc.norm, h.doc.toNum, h.doc.compare]
  | .call f args, c, hs => by
    simp only [safeE, Bool.and_eq_true, Bool.not_eq_true', imp_and] at hs
    cases hf : f.pre with
    | some p => simp only [renE, eval, hf, Option.map_some, h.pre]
    | none => simp only [renE, eval, hf, Option.map_none, renEs_length, evalArgs_sim args c hs.2, h.func _ hs.1]
  | .filter e ps, c, hs => by
    simp only [safeE, Bool.and_eq_true, imp_and] at hs
    simp only [renE, eval, eval_sim e c hs.1, fun rev ks => filterPreds_sim ps rev ks hs.2, h.doc.norm]
  | .path (some e) ab steps, c, hs => by
    simp only [safeE, Bool.and_eq_true, imp_and] at hs
    simp only [renE, eval, eval_sim e c hs.1, fun ks => evalSteps_sim steps ks hs.2, h.doc.norm]
  | .path none ab steps, c, hs => by
    simp only [safeE] at hs
    simp only [renE, eval, fun ks => evalSteps_sim steps ks hs, h.doc.norm]
theorem evalArgs_sim : ∀ (es : List Expr) (c : Ctx), (s → safeEs es = true) → evalArgs env' (renEs σ es) c = evalArgs env es c
  | [], _, _ => by simp only [renEs, evalArgs]
  | e :: r, c, hs => by
    simp only [safeEs, Bool.and_eq_true, imp_and] at hs
    simp only [renEs, evalArgs, eval_sim e c hs.1, evalArgs_sim r c hs.2]
theorem evalSteps_sim : ∀ (steps : List Step) (ks : List Key), (s → safeSs steps = true) →
    evalSteps env' (renSs σ steps) ks = evalSteps env steps ks
  | [], _, _ => by simp only [renSs, evalSteps]
  | st :: r, ks, hs => by
    simp only [safeSs, Bool.and_eq_true, imp_and] at hs
    simp only [renSs, evalSteps, evalStepOn_congr (fun k => evalStep_sim st k hs.1),
      fun ks => evalSteps_sim r ks hs.2, h.doc.norm]
theorem evalStep_sim : ∀ (st : Step) (k : Key), (s → safeS st = true) → evalStep env' (renS σ st) k = evalStep env st k
  | .mk a t ps, k, hs => by
    simp only [safeS, Bool.and_eq_true, Bool.not_eq_true', ← Bool.not_eq_true, beq_iff_eq, imp_and] at hs
    simp only [renS, evalStep, h.doc.axis, tests_congr (h.test a t hs.1), fun rev ks => filterPreds_sim ps rev ks hs.2]
theorem filterPreds_sim : ∀ (ps : List Expr) (rev : Bool) (ks : List Key), (s → safeEs ps = true) →
    filterPreds env' (renEs σ ps) rev ks = filterPreds env ps rev ks
  | [], _, _, _ => by simp only [renEs, filterPreds]
  | p :: r, rev, ks, hs => by
    simp only [safeEs, Bool.and_eq_true, imp_and] at hs
    simp only [renEs, filterPreds, filterOne_congr (fun c => eval_sim p c hs.1),
      fun rev ks => filterPreds_sim r rev ks hs.2]
end
end

section
variable {σ : Str → Str} {env env' : XPath.Env} (h : Rebound σ env env')
include h

theorem eval_rebound : ∀ (e : Expr) (c : Ctx), eval env' (renE σ e) c = eval env e c :=
  fun e c => eval_sim h.sim e c nofun
theorem evalArgs_rebound : ∀ (es : List Expr) (c : Ctx), evalArgs env' (renEs σ es) c = evalArgs env es c :=
  fun es c => evalArgs_sim h.sim es c nofun
theorem evalSteps_rebound : ∀ (steps : List Step) (ks : List Key), evalSteps env' (renSs σ steps) ks = evalSteps env steps ks :=
  fun steps ks => evalSteps_sim h.sim steps ks nofun
theorem evalStep_rebound : ∀ (st : Step) (k : Key), evalStep env' (renS σ st) k = evalStep env st k :=
  fun st k => evalStep_sim h.sim st k nofun
theorem filterPreds_rebound : ∀ (ps : List Expr) (rev : Bool) (ks : List Key),
    filterPreds env' (renEs σ ps) rev ks = filterPreds env ps rev ks :=
  fun ps rev ks => filterPreds_sim h.sim ps rev ks nofun
end

/-- RESULTS DO NOT CHANGE WHEN PREFIXES ARE RENAMED CONSISTENTLY IN THE EXPRESSION (together with the bindings the caller
    supplies for them): every expression, every document, every context -/
theorem eval_rename_expression {σ : Str → Str} (hinj : ∀ a b, σ a = σ b → a = b) (env : XPath.Env) (e : Expr) (c : Ctx) :
    eval { env with ns := renB σ env.ns } (renE σ e) c = eval env e c :=
  eval_rebound (rebound_of_renB hinj env) e c

/-- the renaming is not the identity on the example: `p:a[@p:x]` becomes `pp:a[@pp:x]`, bindings `p=u` become `pp=u` -/
example : renE exRho (.path none false [.mk .child (.name ⟨some ['p'], ['a']⟩) [.path none false [.mk .attribute (.name ⟨some ['p'], ['x']⟩) []]]]) =
    .path none false [.mk .child (.name ⟨some ['p', 'p'], ['a']⟩) [.path none false [.mk .attribute (.name ⟨some ['p', 'p'], ['x']⟩) []]]] ∧
    renB exRho [(some ['p'], ['u']), (none, ['d'])] = [(some ['p', 'p'], ['u']), (none, ['d'])] := ⟨rfl, by decide⟩

/-! ### the document side: alike documents, safe expressions
    `renE id e` is `e` only up to an induction of its own; that it EVALUATES like `e` is the expression side for
    `σ = id`, and that is all that is needed here. -/

theorem Rebound.id (env : XPath.Env) : Rebound id env env := ⟨rfl, fun _ => rfl, rfl⟩

section
variable {env env' : XPath.Env} (h : Alike env.doc env'.doc) (hns : env'.ns = env.ns)
include h hns

theorem eval_congr : ∀ (e : Expr) (c : Ctx), safeE e = true → eval env' e c = eval env e c :=
  fun e c hs => (eval_rebound (.id env') e c).symm.trans (eval_sim (h.sim hns) e c fun _ => hs)
theorem evalArgs_congr : ∀ (es : List Expr) (c : Ctx), safeEs es = true → evalArgs env' es c = evalArgs env es c :=
  fun es c hs => (evalArgs_rebound (.id env') es c).symm.trans (evalArgs_sim (h.sim hns) es c fun _ => hs)
theorem evalSteps_congr : ∀ (steps : List Step) (ks : List Key), safeSs steps = true → evalSteps env' steps ks = evalSteps env steps ks :=
  fun steps ks hs => (evalSteps_rebound (.id env') steps ks).symm.trans (evalSteps_sim (h.sim hns) steps ks fun _ => hs)
theorem evalStep_congr : ∀ (st : Step) (k : Key), safeS st = true → evalStep env' st k = evalStep env st k :=
  fun st k hs => (evalStep_rebound (.id env') st k).symm.trans (evalStep_sim (h.sim hns) st k fun _ => hs)
theorem filterPreds_congr : ∀ (ps : List Expr) (rev : Bool) (ks : List Key), safeEs ps = true →
    filterPreds env' ps rev ks = filterPreds env ps rev ks :=
  fun ps rev ks hs => (filterPreds_rebound (.id env') ps rev ks).symm.trans (filterPreds_sim (h.sim hns) ps rev ks fun _ => hs)
end

/-- RESULTS DO NOT CHANGE WHEN PREFIXES ARE RENAMED CONSISTENTLY IN THE DOCUMENT: every expression that does not call
    `name()` / `local-name()` and puts no name test on the namespace axis has the same value - the same node-set, string,
    number or boolean, or the same error - on the renamed document, at every context, under the same bindings -/
theorem eval_ren {ρ : Str → Str} (h : Consistent ρ) (hx : ρ xmlP = xmlP) (env : XPath.Env) (e : Expr) (c : Ctx)
    (hs : safeE e = true) : eval { env with doc := renDoc ρ env.doc } e c = eval env e c :=
  eval_congr (env := env) (env' := { env with doc := renDoc ρ env.doc }) (renDoc_alike h hx env.doc) rfl e c hs

/-- ... and so does every query text that parses to such an expression -/
theorem query_ren {ρ : Str → Str} (h : Consistent ρ) (hx : ρ xmlP = xmlP) (env : XPath.Env) (s : Str)
    (hs : ∀ e, parseExpr s = .ok e → safeE e = true) : query { env with doc := renDoc ρ env.doc } s = query env s := by
  unfold query
  cases hp : parseExpr s with
  | error x => cases x <;> rfl
  | ok e => simp only [eval_ren h hx env e _ (hs e hp)]

example : Consistent exRho ∧ exRho xmlP = xmlP := ⟨exRho_consistent, rfl⟩

/-- the premise is met by paths with predicates, functions and prefixed name tests; `name()` is rightly excluded: it shows
    `pp:a` on the renamed example document (see above) -/
example : safeE (.path none true [.mk .descendantOrSelf .node [], .mk .child (.name ⟨some ['q'], ['a']⟩)
    [.bin .eq (.path none false [.mk .attribute (.name ⟨some ['q'], ['x']⟩) []]) (.lit ['1'])]]) = true := by decide
example : safeE (.path none false [.mk .namespace (.name ⟨none, ['p']⟩) []]) = false := by decide

/-! ### renaming commutes with the scope computation
    `renDoc` renames the in-scope namespaces stored on every element.  That this is what renaming the DECLARATIONS produces is
    the following: the in-scope namespaces computed from renamed own declarations and renamed inherited ones are the renamed
    in-scope namespaces - so a document whose `xmlns:p` declarations (and the names using them) are renamed consistently is
    built into the `renDoc` of the original, scope by scope. -/

theorem inScope_ren {ρ : Str → Str} (h : Consistent ρ) (own inh : List (Str × Str)) :
    inScope (own.map (renNs ρ)) (inh.map (renNs ρ)) = (inScope own inh).map (renNs ρ) := by
  have h1 : ∀ p : Str × Str, (own.map (renNs ρ)).any (·.1 == ρ p.1) = own.any (·.1 == p.1) := fun p => by
    rw [List.any_map]
    exact congrArg own.any (funext fun q => beq_of_inj h.inj q.1 p.1)
  simp only [inScope, List.filter_map, ← List.map_append, Function.comp_def, h1, renNs, h.isEmpty]

example : inScope ([(['p'], ['u'])].map (renNs exRho)) ([(['x', 'm', 'l'], xmlNsUri), ([], ['d'])].map (renNs exRho)) =
    [(['p', 'p'], ['u']), (['x', 'm', 'l'], xmlNsUri), ([], ['d'])] := by
  generalize xmlNsUri = u   -- the text of the URI plays no part
  rfl

end XmlRs.C10
