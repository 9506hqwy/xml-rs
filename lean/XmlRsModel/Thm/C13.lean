import XmlRsModel.Lemmas.DomMoves
/-! Property C13: DOM mutators — DOM Level 1 effect, specified exceptions, atomic failure.
    The model `Dom.step` IS the DOM Level 1 reading of each mutator (the tie compares it with the
    code after every call of every history).  Proved here for all states and all calls: a call that
    fails — with any exception, or by the recorded factory panic — leaves the document tree and every
    detached tree exactly as they were (`failed_call_unobservable`); and the numbering of handles: a call that
    hands out a reference takes one slot whatever it answers, every other call none (`handles_after_history`).
    The effects of the successful calls are in `Thm/C13Effect.lean`. -/
namespace XmlRs.C13
open XmlRs XmlRs.Dom

/-- the observable part of a state: the document tree and the detached trees (handles are the
    caller's references, not part of the document) -/
def sameTrees (a b : St) : Prop := a.doc = b.doc ∧ a.detached = b.detached

/-- whatever the call and whatever the state: a failing call (exception or the recorded factory panic)
    leaves the document tree and every detached tree unchanged -/
theorem failed_call_unobservable (s s' : St) (op : Op) (r : Dom.Res)
    (h : step s op = (s', r)) (hr : (∃ e, r = .err e) ∨ r = .panic) : sameTrees s' s := by
  have := (step_does s op).atomic
  rw [h] at this
  exact this (by rcases hr with ⟨e, rfl⟩ | rfl <;> trivial)

/-! ### handle numbering: what makes long histories replayable on both sides -/
/-- the calls that hand out a node reference -/
def allocates : Op → Bool
  | .createElement _ | .createText _ | .createComment _ | .createCData _ | .createPI _ _ | .createAttribute _
  | .createEntityRef _ | .getAttributeNode _ _ | .childAt _ _ | .splitText _ _ => true
  | _ => false

theorem fresh_handles (s : St) (k : Kind) (d : Str) : (s.fresh k d).1.handles = s.handles := by
  simp [St.fresh]

theorem slots_eq (op : Op) : slots op = if allocates op then 1 else 0 := by
  cases op <;> rfl

/-- every call that hands out a node reference takes exactly one handle slot WHATEVER ITS OUTCOME (node, null,
    exception, recorded panic): the numbering of handles in a history does not depend on which calls succeed, and
    earlier handles are never renumbered -/
theorem allocating_call_takes_one_slot (s : St) (op : Op) (h : allocates op = true) :
    ∃ x, (Dom.step s op).1.handles = s.handles ++ [x] := by
  obtain ⟨l, hl, e⟩ := (step_moves s op).handles
  rw [slots_eq, h, if_pos rfl] at hl
  match l, hl with
  | [x], _ => exact ⟨x, e⟩

theorem removeChild_handles' {s s' : St} {p c : Nat} {r : Dom.Res}
    (h : removeChild s p c = (s', r)) : s'.handles = s.handles :=
  (removeChild_does h).moves.quiet

/-- a call that hands out no reference is a sequence of moves none of which takes a handle slot (`Move.quiet`) -/
theorem quiet_call_keeps_handles (s : St) (op : Op) (h : allocates op = false) :
    (Dom.step s op).1.handles = s.handles := by
  have hm := step_moves s op
  rw [slots_eq, h, if_neg Bool.false_ne_true] at hm
  exact hm.quiet

/-- over a whole history: handles are only ever appended (a reference handed out earlier keeps its number and its
    meaning), and their count is the initial count plus the number of reference-returning calls - successful or not -/
theorem handles_after_history (ops : List Op) (s : St) :
    s.handles <+: (ops.foldl (fun s op => (Dom.step s op).1) s).handles ∧
    (ops.foldl (fun s op => (Dom.step s op).1) s).handles.length = s.handles.length + (ops.filter allocates).length := by
  induction ops generalizing s with
  | nil => simp
  | cons op r ih =>
    obtain ⟨ih1, ih2⟩ := ih (Dom.step s op).1
    simp only [List.foldl_cons]
    cases ha : allocates op with
    | true =>
      obtain ⟨x, hx⟩ := allocating_call_takes_one_slot s op ha
      refine ⟨List.IsPrefix.trans ⟨[x], hx.symm⟩ ih1, ?_⟩
      rw [ih2, hx]; simp [ha]; omega
    | false =>
      have hq := quiet_call_keeps_handles s op ha
      refine ⟨by rw [hq] at ih1; exact ih1, ?_⟩
      rw [ih2, hq]; simp [ha]

end XmlRs.C13
