import XmlRsModel.Lemmas.DomEffect
import XmlRsModel.Thm.C12
import XmlRsModel.Lemmas.DomNormal
/-! Property C13, the EFFECT half: a successful tree mutator performs exactly the change DOM Level 1
    specifies, including the move of a node that is already in the tree.  Stated on the child-id
    lists read off the model's forest, for every state satisfying the invariant of C12 (every state
    reachable from a parsed document, `C12.inv_run`). -/
namespace XmlRs.C13
open XmlRs XmlRs.Dom List

/-- `insertBefore(newChild, refChild)` (DOM Level 1: "inserts the node newChild before the existing child node
    refChild … if the newChild is already in the tree, it is first removed"): the parent's children afterwards are its
    former children without `newChild`, in their order, with `newChild` in front of the (adjusted) reference child
    (at the end when there is none) -/
theorem insertBefore_effect (s s' : St) (p c c' : Nat) (ref : Option Nat) (hi : Inv s)
    (h : insertChild s p c ref = (s', .node c')) :
    ∃ pn pn', s.find p = some pn ∧ s'.find p = some pn' ∧
      pn'.kids.map (·.id) = insertBeforeIds c (adjustRef pn c ref) ((pn.kids.map (·.id)).filter (· != c)) := by
  obtain ⟨pn, cn, s1, x, hins, rfl⟩ := insertChild_ok h
  obtain ⟨rfl, hne, hx⟩ := hins.taken hi
  have hp := hins.parent
  have hp1 := find_after_detach s s1 c p cn pn hi.1 hne hins.detached hp hx
  obtain ⟨_, hid, hcnt⟩ := detach_some hi.1 hins.detached
  have hk : KeepsId (Node.mapKids (insertBeforeL cn (adjustRef pn c ref))) := fun n => by cases n; rfl
  have hp2 := find_update s1 p _ hk _ (fun a => by have := hcnt a; have := hi.1 a; omega) hp1
  refine ⟨pn, _, hp, hp2, ?_⟩
  rw [kids_mapKids, insertBeforeL_ids, hid,
    removeIn_kids_ids c pn fun a => Nat.le_trans ((findInL_some hp).2 a) (hi.1 a)]

/-- `appendChild(newChild)`: `newChild` becomes the LAST child; if it was a child of this parent
    already it is first removed from its old place; every other child keeps its place -/
theorem appendChild_effect (s s' : St) (p c c' : Nat) (hi : Inv s) (h : step s (.appendChild p c) = (s', .node c')) :
    ∃ pn pn', s.find p = some pn ∧ s'.find p = some pn' ∧
      pn'.kids.map (·.id) = (pn.kids.map (·.id)).filter (· != c) ++ [c] := by
  obtain ⟨pn, pn', hp, hp', hk⟩ := insertBefore_effect s s' p c c' none hi h
  exact ⟨pn, pn', hp, hp', by rw [hk, ← insertBeforeIds_none]; rfl⟩

/-- … and afterwards `newChild` reports that parent (the two views agree, C12) -/
theorem appendChild_sets_parent (s s' : St) (p c c' : Nat) (hi : Inv s) (h : step s (.appendChild p c) = (s', .node c')) :
    s'.parent c = some p := by
  obtain ⟨pn, pn', hp, hp', hk⟩ := appendChild_effect s s' p c c' hi h
  apply C12.child_reports_parent s' (C12.inv_after hi h) p c pn' hp'
  have hm : c ∈ pn'.kids.map (·.id) := by rw [hk]; exact mem_append_right _ (mem_singleton_self c)
  obtain ⟨k, hk1, hk2⟩ := mem_map.mp hm
  exact any_eq_true.mpr ⟨k, hk1, beq_iff_eq.mpr hk2⟩

/-- `removeChild(oldChild)`: the parent keeps its other children in their order; what is handed back
    is the very subtree, now the root of a detached tree, without parent -/
theorem removeChild_effect' (s s' : St) (p c c' : Nat) (hi : Inv s) (h : step s (.removeChild p c) = (s', .node c')) :
    ∃ pn pn' cn, s.find p = some pn ∧ s.find c = some cn ∧ s'.find p = some pn' ∧
      pn'.kids.map (·.id) = (pn.kids.map (·.id)).filter (· != c) ∧ cn ∈ s'.detached ∧ s'.parent c = none := by
  obtain ⟨pn, pn', cn, hp, hc, hp', hk, hdet⟩ := removeChild_effect s s' p c c' hi h
  refine ⟨pn, pn', cn, hp, hc, hp', hk, hdet, ?_⟩
  rw [← (findInL_some hc).1]
  exact C12.root_has_no_parent s' (C12.inv_after hi h) cn (mem_cons_of_mem _ hdet)

/-- a reference child other than the new child needs no adjustment -/
theorem adjustRef_of_ne (pn : Node) (c : Nat) (ref : Option Nat) (h : ∀ i, ref = some i → i ≠ c) : adjustRef pn c ref = ref := by
  cases ref with
  | none => rfl
  | some i => simp only [adjustRef, beq_eq_false_iff_ne.mpr (h i rfl), Bool.false_eq_true, if_false]

/-- `replaceChild(newChild, oldChild)` with two different nodes: `oldChild` is handed back, and the parent's children
    afterwards are its former children without `newChild` (if it was among them it is first removed), in their order,
    with `newChild` standing where `oldChild` stood -/
theorem replaceChild_effect (s s' : St) (p new old r : Nat) (hi : Inv s) (hne : new ≠ old)
    (h : step s (.replaceChild p new old) = (s', .node r)) :
    ∃ pn pn', s.find p = some pn ∧ s'.find p = some pn' ∧ r = old ∧
      pn'.kids.map (·.id) = ((pn.kids.map (·.id)).filter (· != new)).map (fun x => if x = old then new else x) := by
  rcases replaceChild_cases s p new old with ⟨_, he⟩ | ⟨_, _, heq, _, _⟩ | ⟨pn, s1, _, s2, _, _, hp, hrm, hin, he⟩
  · rw [he] at h; cases h
  · exact absurd heq hne
  · cases he.symm.trans h
    -- `old` is a child of `p`: the removal succeeded
    obtain ⟨pn', _, _, hp', _, hany, _, _⟩ := removeChild_ok hrm
    cases hp.symm.trans hp'
    obtain ⟨k, hk, hkc⟩ := any_eq_true.mp hany
    obtain ⟨_, pn1, _, hp0, _, hp1, hk1, _⟩ := removeChild_effect s s1 p old _ hi hrm
    cases hp.symm.trans hp0
    obtain ⟨_, pn2, hp1', hp2, hk2⟩ := insertBefore_effect s1 s' p new _ _ (C12.inv_after (op := .removeChild p old) hi hrm) hin
    cases hp1.symm.trans hp1'
    refine ⟨pn, pn2, hp, hp2, rfl, ?_⟩
    -- the reference is not the new child itself
    rw [hk2, hk1, ref_ids, adjustRef_of_ne _ _ _ fun i hi' => by simpa using (mem_filter.mp (mem_of_mem_head? hi')).2]
    exact replace_ids old new hne _ (kids_ids_nodup s hi p pn hp) (mem_map.mpr ⟨k, hk, beq_iff_eq.mp hkc⟩)

/-- `normalize()`: it always succeeds on a node that exists; the element is afterwards its normalized form, which reads
    exactly as before - same marks (identity, kind, data of every node that is not a Text node, attributes included) and
    same characters in the same places; only the cutting of character data into Text nodes changed -/
theorem normalize_effect (s : St) (e : Nat) (en : Node) (hi : Inv s) (hf : s.find e = some en) :
    (step s (.normalize e)).2 = .ok ∧
    (step s (.normalize e)).1.find e = some (normNode en).1 ∧ tokens (normNode en).1 = tokens en := by
  simp only [step, hf]
  refine ⟨trivial, ?_, normNode_tokens en⟩
  have hk : KeepsId (fun n => (normNode n).1) := by
    intro n; cases n with
    | mk j k d as ks => cases k <;> rfl
  exact findInL_append_left e _ (s.update e fun n => (normNode n).1).roots _ (find_update s e _ hk en hi.1 hf)

/-- … and that form is normal: below the element and in its attribute values no Text node is empty, and no Text node
    follows a Text node it could have been appended to (two stay apart only where their data together would not be
    character data, `a]]` + `>b`) -/
theorem normalize_reaches_normal_form (en : Node) : isNormal (normNode en).1 = true := normNode_normal en

/-- … and no node is lost or duplicated by it: every node is afterwards in the normalized tree or a detached root -/
theorem normalize_preserves_nodes (s : St) (e : Nat) (hi : Inv s) : SameIds s (step s (.normalize e)).1 :=
  normalize_sameIds s e hi

/-! ### the factories and the reads
    A factory call that succeeds makes ONE node (`Made`): a further detached root without children or attributes, of the kind
    and with the name / data asked for, whose id is the allocation counter; the document and every other tree are as they
    were.  That no node bears that id yet, and that a detached root has no parent, holds in states satisfying the invariant of
    C12 and is not part of `Made`.  For elements, attributes, processing instructions and entity references a name that is not
    a name of the kind is INVALID_CHARACTER_ERR and makes nothing; for Text, Comment and CDATA the refusal is the recorded
    factory panic and only the successful half is stated.  A read (`getAttributeNode`, `childNodes.item`) changes no tree. -/

/-- the state after a factory call that made node `i` of kind `k` with data `d` -/
def Made (s s' : St) (i : Nat) (k : Kind) (d : Str) : Prop :=
  i = s.next ∧ s'.doc = s.doc ∧ s'.detached = s.detached ++ [.mk i k d [] []] ∧ s'.next = s.next + 1

theorem factory_made (s : St) {v : Bool} (h : v = true) (k : Kind) (d : Str) (r : Dom.Res) :
    ∃ s' i, factory s v k d r = (s', .node i) ∧ Made s s' i k d := by
  rw [factory, if_pos h]; exact ⟨_, _, rfl, rfl, rfl, rfl, rfl⟩

theorem factory_refused (s : St) {v : Bool} (h : v = false) (k : Kind) (d : Str) (r : Dom.Res) :
    ∃ s', factory s v k d r = (s', r) ∧ s'.doc = s.doc ∧ s'.detached = s.detached := by
  rw [factory, if_neg (by rw [h]; exact Bool.false_ne_true)]; exact ⟨_, rfl, rfl, rfl⟩

theorem createElement_effect (s : St) (name : Str) :
    (validQName name = true → ∃ s' i, step s (.createElement name) = (s', .node i) ∧ Made s s' i (.elem name) []) ∧
    (validQName name = false → ∃ s', step s (.createElement name) = (s', .err .invalidChar) ∧ s'.doc = s.doc ∧ s'.detached = s.detached) :=
  ⟨fun h => factory_made s h .., fun h => factory_refused s h ..⟩

theorem createAttribute_effect (s : St) (name : Str) :
    (validQName name = true → ∃ s' i, step s (.createAttribute name) = (s', .node i) ∧ Made s s' i (.attr name true) []) ∧
    (validQName name = false → ∃ s', step s (.createAttribute name) = (s', .err .invalidChar) ∧ s'.doc = s.doc ∧ s'.detached = s.detached) :=
  ⟨fun h => factory_made s h .., fun h => factory_refused s h ..⟩

theorem createPI_effect (s : St) (t d : Str) :
    ((validPITarget t && validPI t d) = true → ∃ s' i, step s (.createPI t d) = (s', .node i) ∧ Made s s' i (.pi t) (storedPIData d)) ∧
    ((validPITarget t && validPI t d) = false → ∃ s', step s (.createPI t d) = (s', .err .invalidChar) ∧ s'.doc = s.doc ∧ s'.detached = s.detached) :=
  ⟨fun h => factory_made s h .., fun h => factory_refused s h ..⟩

theorem createText_effect (s : St) (d : Str) (h : validText d = true) :
    ∃ s' i, step s (.createText d) = (s', .node i) ∧ Made s s' i .text d :=
  factory_made s h ..

theorem createComment_effect (s : St) (d : Str) (h : validComment d = true) :
    ∃ s' i, step s (.createComment d) = (s', .node i) ∧ Made s s' i .comment d :=
  factory_made s h ..

theorem createCData_effect (s : St) (d : Str) (h : validCData d = true) :
    ∃ s' i, step s (.createCData d) = (s', .node i) ∧ Made s s' i .cdata d :=
  factory_made s h ..

/-- an entity reference can be made for a name that is a Name and stands for an entity the document knows (here: the
    predefined ones); a string that is not a Name is INVALID_CHARACTER_ERR whatever it begins with -/
theorem createEntityRef_effect (s : St) (name : Str) :
    (validName name = false → ∃ s', step s (.createEntityRef name) = (s', .err .invalidChar) ∧ s'.doc = s.doc ∧ s'.detached = s.detached) ∧
    (validName name = true → (predefined.find? (·.1 == name)).isSome = true →
       ∃ s' i, step s (.createEntityRef name) = (s', .node i) ∧ Made s s' i (.ref name) []) := by
  constructor
  · intro h; rw [step_createEntityRef, if_neg (by rw [h]; exact Bool.false_ne_true)]; exact factory_refused s rfl ..
  · intro h hp; rw [step_createEntityRef, if_pos h]; exact factory_made s hp ..

/-- the reads leave every tree as it is (they only hand out a handle) -/
theorem reads_change_no_tree (s : St) :
    (∀ e name, (step s (.getAttributeNode e name)).1.doc = s.doc ∧ (step s (.getAttributeNode e name)).1.detached = s.detached) ∧
    (∀ n i, (step s (.childAt n i)).1.doc = s.doc ∧ (step s (.childAt n i)).1.detached = s.detached) := by
  constructor
  · intro e name; simp only [step]; repeat' split
    all_goals exact ⟨rfl, rfl⟩
  · intro n i; simp only [step]; repeat' split
    all_goals exact ⟨rfl, rfl⟩

/-! ### the CharacterData mutators on the tree
    A CharacterData call that succeeds on a Text, Comment or CDATA node: the node found under the same id afterwards is the old
    node with the string the DOM Level 1 function computes from the old data (the string functions are the subject of C16).
    That no other node changes is `C15.data_edit_effect`. -/

theorem withData_keepsId (d : Str) : KeepsId (Node.withData d) := fun n => by cases n; rfl

/-- the five mutators `setData / appendData / insertData / deleteData / replaceData` go through one function: on success the
    node found under `n` afterwards is the old node with the new data -/
theorem dataOp_effect (s s' : St) (n : Nat) (f : Str → Option Str) (nn : Node) (hi : Inv s) (hf : s.find n = some nn)
    (hk : isCharData nn.kind = true) (h : step.dataOp s n f = (s', .ok)) :
    ∃ d', f nn.data = some d' ∧ validData nn.kind d' = true ∧ s'.find n = some (nn.withData d') := by
  obtain ⟨nn', d', hf', hd, hv, rfl⟩ := dataOp_ok h
  cases hf.symm.trans hf'
  refine ⟨d', hd, hv, ?_⟩
  have key := find_update s n (Node.withData d') (withData_keepsId d') nn hi.1 hf
  cases hkk : nn.kind <;> simp only [hkk, isCharData, Bool.false_eq_true] at hk <;> exact key

/-- `appendData`: the data afterwards is the old data followed by the argument -/
theorem appendData_effect (s s' : St) (n : Nat) (d : Str) (nn : Node) (hi : Inv s) (hf : s.find n = some nn)
    (hk : isCharData nn.kind = true) (h : step s (.appendData n d) = (s', .ok)) :
    s'.find n = some (nn.withData (nn.data ++ d)) := by
  obtain ⟨d', hd, _, hfind⟩ := dataOp_effect s s' n _ nn hi hf hk (by simpa only [step] using h)
  simp only [Option.some.injEq] at hd
  subst hd
  exact hfind

/-- `setData`: the data afterwards is the argument -/
theorem setData_effect (s s' : St) (n : Nat) (d : Str) (nn : Node) (hi : Inv s) (hf : s.find n = some nn)
    (hk : isCharData nn.kind = true) (h : step s (.setData n d) = (s', .ok)) :
    s'.find n = some (nn.withData d) := by
  obtain ⟨d', hd, _, hfind⟩ := dataOp_effect s s' n _ nn hi hf hk (by simpa only [step] using h)
  simp only [Option.some.injEq] at hd
  subst hd
  exact hfind

/-- `deleteData` / `insertData` / `replaceData`: the data afterwards is what the DOM Level 1 string function gives (C16) -/
theorem deleteData_effect (s s' : St) (n off cnt : Nat) (nn : Node) (hi : Inv s) (hf : s.find n = some nn)
    (hk : isCharData nn.kind = true) (h : step s (.deleteData n off cnt) = (s', .ok)) :
    ∃ d', CharData.deleteData nn.data off cnt = some d' ∧ s'.find n = some (nn.withData d') := by
  obtain ⟨d', hd, _, hfind⟩ := dataOp_effect s s' n _ nn hi hf hk (by simpa only [step] using h)
  exact ⟨d', hd, hfind⟩

theorem insertData_effect (s s' : St) (n off : Nat) (d : Str) (nn : Node) (hi : Inv s) (hf : s.find n = some nn)
    (hk : isCharData nn.kind = true) (h : step s (.insertData n off d) = (s', .ok)) :
    ∃ d', CharData.insertData nn.data off d = some d' ∧ s'.find n = some (nn.withData d') := by
  obtain ⟨d', hd, _, hfind⟩ := dataOp_effect s s' n _ nn hi hf hk (by simpa only [step] using h)
  exact ⟨d', hd, hfind⟩

theorem replaceData_effect (s s' : St) (n off cnt : Nat) (d : Str) (nn : Node) (hi : Inv s) (hf : s.find n = some nn)
    (hk : isCharData nn.kind = true) (h : step s (.replaceData n off cnt d) = (s', .ok)) :
    ∃ d', CharData.replaceData nn.data off cnt d = some d' ∧ s'.find n = some (nn.withData d') := by
  obtain ⟨d', hd, _, hfind⟩ := dataOp_effect s s' n _ nn hi hf hk (by simpa only [step] using h)
  exact ⟨d', hd, hfind⟩

end XmlRs.C13
