import XmlRsModel.XPath.Eval
import XmlRsModel.XmlDoc
/-! Property C19: parsing and querying are deterministic and side-effect free.
    In the model `parseDoc`, `buildDoc`, `parseExpr` and `eval` are FUNCTIONS of their arguments (no
    hidden state exists in a Lean definition), the document is an input only, and the evaluation
    context of a predicate (node, position, size) is passed down and never returned: nothing an inner
    evaluation does — succeed, fail, fail half-way through a predicate — can reach the context of an
    outer or later evaluation.  The theorems below say exactly that in the terms of the property; the
    tie (one real `Context` re-used for a series of queries, including failing ones, against fresh
    contexts) is what shows that the code behaves like this model. -/
namespace XmlRs.C19
open XmlRs XmlRs.XPath

/-- a series of queries on one document and one set of bindings: each answer is the answer of that
    query alone — there is nothing a query could leave behind -/
def runSeries (env : XPath.Env) (qs : List Str) : List (Except QErr Value) := qs.map (XPath.query env)

theorem series_independent (env : XPath.Env) (before after : List Str) (q : Str) :
    (runSeries env (before ++ q :: after))[before.length]? = some (XPath.query env q) := by
  simp [runSeries]

/-- also after a query that failed (at top level or inside a predicate) -/
theorem failure_leaves_nothing (env : XPath.Env) (bad q : Str) :
    (runSeries env [bad, q])[1]? = some (XPath.query env q) := rfl

theorem top_level_position (env : XPath.Env) (c : Ctx) :
    eval env (.call ⟨none, "position".toList⟩ []) c = .ok (.num (ofNat c.pos)) ∧
    eval env (.call ⟨none, "last".toList⟩ []) c = .ok (.num (ofNat c.size)) := by
  have h1 : funcTable.find? (·.1 == "position") = some ("position", 0, some 0) := by decide +kernel
  have h2 : funcTable.find? (·.1 == "last") = some ("last", 0, some 0) := by decide +kernel
  constructor <;> simp only [eval, String.ofList_toList, h1, h2, evalArgs] <;> rfl

theorem operands_share_the_context (env : XPath.Env) (a b : Expr) (c : Ctx) :
    eval env (.bin .add a b) c =
      (match eval env a c with
       | .error x => .error x
       | .ok va => match eval env b c with
         | .error x => .error x
         | .ok vb => .ok (.num (addB (toNum env.doc va) (toNum env.doc vb)))) := by
  simp only [eval]
  cases eval env a c with
  | error x => rfl
  | ok va => cases eval env b c <;> rfl

/-- a predicate is evaluated with ITS OWN position and size and cannot change the caller's: in
    `e[p] + position()` the right operand sees the caller's position whatever `e[p]` did -/
theorem predicate_context_is_local (env : XPath.Env) (e p : Expr) (c : Ctx) :
    eval env (.bin .add (.filter e [p]) (.call ⟨none, "position".toList⟩ [])) c =
      (match eval env (.filter e [p]) c with
       | .error x => .error x
       | .ok v => .ok (.num (addB (toNum env.doc v) (ofNat c.pos)))) := by
  rw [operands_share_the_context, (top_level_position env c).1]
  cases eval env (.filter e [p]) c <;> rfl

theorem parse_deterministic (s : Str) (d1 d2 : IDoc) (r1 r2 : Str)
    (h1 : parseDoc s = .ok (d1, r1)) (h2 : parseDoc s = .ok (d2, r2)) :
    printDoc d1 = printDoc d2 ∧ r1 = r2 := by
  rw [h1] at h2
  simp only [Except.ok.injEq, Prod.mk.injEq] at h2
  obtain ⟨rfl, rfl⟩ := h2
  exact ⟨rfl, rfl⟩

end XmlRs.C19
