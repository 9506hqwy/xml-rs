import XmlRsModel.Dom
import XmlRsModel.Thm.C13
import XmlRsModel.Lemmas.DomEffect
import XmlRsModel.Lemmas.DomHeight
import XmlRsModel.Thm.C12
import XmlRsModel.Thm.C03
import XmlRsModel.Lemmas.AbsDepth
import XmlRsModel.Lemmas.DataValid
import XmlRsModel.Lemmas.DataValidPI
/-! Property C15: edits that succeed keep the document serializable and faithful.
    The library validates supplied data by re-parsing a fragment with its own grammar productions; the
    model's validity predicates ARE those productions (`Dom.validText` = production `char_data` of the
    grammar generated from the source, and so on), so they change when the source changes.  Proved:
    what `char_data`, `cdsect`, `comment` and `pi` (target and data) accept, in closed form (for comments: exactly production [15] of
    the Recommendation, and that production in words); every data edit stores only data that passed the
    predicate for the node's kind — computed on the OUTCOME of the edit, so a forbidden sequence that
    only arises from combining harmless pieces is refused too; a refused edit changes nothing. -/
namespace XmlRs.C15
open XmlRs XmlRs.Dom Gen.Xml XmlRs.Names

/-- character data the library accepts for a Text node, in closed form: every character is a Char
    other than '<' and '&', and "]]>" does not occur — exactly production [14] CharData -/
theorem validText_iff (s : Str) :
    validText s = (s.all (P.except P.isChar ['<', '&']) && !hasSub [']', ']', '>'] s) := by
  obtain ⟨f, hf⟩ : ∃ f, 100000 + 64 * s.length = f + 2 := ⟨99998 + 64 * s.length, by omega⟩
  rw [validText, fullMatch, hf, run, env_char_data, show Prod.char_data = .until0 (P.except P.isChar ['<', '&']) suf from rfl, run,
    Bool.eq_iff_iff, Bool.and_eq_true, Bool.not_eq_true', ← until_end (by decide)]
  cases (runUntil0 (P.except P.isChar ['<', '&']) suf s).2 <;> simp

theorem validCData_iff (s : Str) : validCData s = (s.all P.isChar && !hasSub [']', ']', '>'] s) := by
  obtain ⟨f, -, h⟩ := fullMatch_bracket (n := N.cdsect) (o := "<![CDATA[".toList) (g := .until0 P.isChar suf) (c := suf) rfl (s ++ suf)
  rw [validCData, List.append_assoc, show "]]>".toList = suf from rfl, h, run, Bool.eq_iff_iff, beq_iff_eq, Bool.and_eq_true,
    Bool.not_eq_true']
  exact until_key (by decide) (by decide) (by decide) s

/-- comment data the library accepts = production [15] of XML 1.0 -/
theorem validComment_iff (s : Str) : validComment s = isCommentBody s := by
  obtain ⟨f, hf, h⟩ := fullMatch_bracket (n := N.comment) (o := "<!--".toList) (g := .many0 gC) (c := dashEnd) rfl (s ++ dashEnd)
  obtain ⟨ks, rest, h1, h2⟩ := loop_lt (s.length + 1) s (Nat.lt_succ_self _) f (by rw [List.length_append] at hf; omega)
  rw [validComment, List.append_assoc, show "-->".toList = dashEnd from rfl, h, run, h1, Bool.eq_iff_iff, beq_iff_eq, h2]

/-- production [15] in words: only Chars, no "--" inside, no '-' at the end (which would make "--->") -/
theorem commentBody_closed (s : Str) :
    isCommentBody s = (s.all P.isChar && !hasSub ['-', '-'] s && !(s.getLast? == some '-')) := by
  induction s with
  | nil => rfl
  | cons c r ih =>
    by_cases hc : c = '-'
    · subst hc
      cases r with
      | nil => decide
      | cons d r' =>
        rw [hasSub_dd_cons, List.getLast?_cons_cons, List.all_cons, isChar_dash]
        by_cases hd : d = '-'
        · subst hd; simp [isCommentBody]
        · have e : isCommentBody ('-' :: d :: r') = isCommentBody (d :: r') := by
            rw [body_nondash d r' hd, isCommentBody, bne_iff_ne.mpr hd, Bool.and_true]
          rw [e, ih]; simp [beq_false_of_ne hd]
    · rw [body_nondash c r hc, ih, hasSub_dd_cons, last_dash_cons hc, List.all_cons, beq_false_of_ne hc, Bool.false_and,
        Bool.false_or]
      simp only [Bool.and_assoc]

theorem validComment_closed (s : Str) :
    validComment s = (s.all P.isChar && !hasSub ['-', '-'] s && !(s.getLast? == some '-')) := by
  rw [validComment_iff, commentBody_closed]

example : validCData ['a', ']', ']'] = true ∧ validCData ['a', ']', ']', '>', 'b'] = false := by
  rw [validCData_iff, validCData_iff]; decide
example : validComment ['a', '-', 'b'] = true ∧ validComment ['a', '-', '-', 'b'] = false ∧ validComment ['a', '-'] = false := by
  rw [validComment_closed, validComment_closed, validComment_closed]; decide

theorem validPITarget_iff (t : Str) : validPITarget t = (isName t && !P.eqIgnoreAsciiCase t xmlS) := by
  rw [validPITarget]
  cases hn : isName t with
  | false => rfl
  | true =>
    rw [show "?>".toList = '?' :: ['>'] from rfl, pi_match t '?' ['>'] (isName_all t hn) (by decide)]
    cases P.eqIgnoreAsciiCase t xmlS <;> decide

theorem validPI_iff (t d : Str) (ht : validPITarget t = true) :
    validPI t d = (d.all P.isChar && !hasSub ['?', '>'] d) := by
  rw [validPITarget_iff, Bool.and_eq_true, Bool.not_eq_true'] at ht
  exact pi_data_run t d (isName_all t ht.1) ht.2

example : validPITarget ['t'] = true ∧ validPITarget ['X', 'm', 'L'] = false ∧ validPITarget ['1'] = false := by
  rw [validPITarget_iff, validPITarget_iff, validPITarget_iff]; decide
example : validPI ['t'] [' ', 'a', '?'] = true ∧ validPI ['t'] ['a', '?', '>', 'b'] = false := by
  rw [validPI_iff _ _ (by rw [validPITarget_iff]; decide), validPI_iff _ _ (by rw [validPITarget_iff]; decide)]; decide

/-- a data edit that succeeds stores data that passed the validity predicate of the node's kind,
    evaluated on the OUTCOME of the edit (insert / delete / replace / set / append alike) -/
theorem data_edit_validates_outcome (s s' : St) (n : Nat) (f : Str → Option Str) (nn : Node)
    (hn : s.find n = some nn) (h : step.dataOp s n f = (s', .ok)) :
    ∃ d', f nn.data = some d' ∧ validData nn.kind d' = true := by
  obtain ⟨nn', d, hn', hf, hv, _⟩ := dataOp_ok h
  cases hn.symm.trans hn'
  exact ⟨d, hf, hv⟩

def storedData (k : Kind) (d : Str) : Str := match k with | .pi _ => storedPIData d | _ => d

/-- EFFECT and FRAME of a data edit that succeeds (set / append / insert / delete / replace): the node holds the
    outcome of the edit - which passed the validity predicate of its kind -, and no other node of the document or of
    any detached tree changed its identity, kind or data -/
theorem data_edit_effect (s s' : St) (n : Nat) (f : Str → Option Str) (nn : Node) (hi : Inv s)
    (hn : s.find n = some nn) (h : step.dataOp s n f = (s', .ok)) :
    ∃ d', f nn.data = some d' ∧ validData nn.kind d' = true ∧
      s'.find n = some (nn.withData (storedData nn.kind d')) ∧
      ∀ m, m ≠ n → (s'.find m).map sigD = (s.find m).map sigD := by
  obtain ⟨nn', d', hn', hf, hv, rfl⟩ := dataOp_ok h
  cases hn.symm.trans hn'
  refine ⟨d', hf, hv, ?_⟩
  refine ⟨find_update s n _ (fun x => by cases x; rfl) nn hi.1 hn, fun m hm => ?_⟩
  unfold St.find
  rw [update_roots]
  exact findInL_updateInL_other n m _ hm s.roots

theorem refused_edit_changes_nothing (s s' : St) (n : Nat) (f : Str → Option Str) (e : Exc)
    (h : step.dataOp s n f = (s', .err e)) : s' = s := dataOp_refused h

/-- every operation keeps every tree of the state (the document and every detached tree) within the nesting depth the
    parser accepts, `MAX_ELEMENT_DEPTH` (translated from the source as `maxDepth_element`) -/
theorem step_keeps_depth (s : St) (op : Op) (hi : Inv s) (hh : HeightInv s) : HeightInv (step s op).1 :=
  step_heightInv s op hi hh

/-- AFTER ANY HISTORY: if the trees of the initial state are within the depth - a parsed document is, the parser refuses
    anything deeper (`C03.depth_refused`) -, no sequence of DOM calls makes a tree deeper than the parser reads back: the depth
    clause of "no sequence of calls that each report success leaves a document whose serialization the parser rejects" -/
theorem depth_bounded_after_any_history (s : St) (ops : List Op) (hi : Inv s) (hh : HeightInv s) :
    HeightInv (C12.run s ops) ∧ elemHeight (C12.run s ops).doc ≤ Gen.Xml.maxDepth_element := by
  have h := C12.run_invariant_under_inv step_heightInv s ops hi hh
  exact ⟨h, ((heightInv_iff _).mp h).1⟩

theorem parsed_document_stays_within_depth (d : IDoc) (ops : List Op) (hd : topsDepth d.kids ≤ Gen.Xml.maxDepth_element) :
    elemHeight (C12.run (buildSt d) ops).doc ≤ Gen.Xml.maxDepth_element :=
  (depth_bounded_after_any_history (buildSt d) ops (buildSt_inv d) (buildSt_heightInv d hd)).2

/-- END TO END: whatever text the (translated) parser accepts, and whatever DOM operations follow, the document tree never nests
    elements deeper than `MAX_ELEMENT_DEPTH` - the depth at which the parser stops reading.  (parser: `C03.depth_refused` on the
    syntax tree; `absDocument_depth` from the syntax tree to the abstract document; `buildSt_heightInv`; the invariant) -/
theorem parsed_and_edited_stays_within_depth (text : Str) (d : IDoc) (rest : Str) (ops : List Op)
    (h : parseDoc text = .ok (d, rest)) :
    elemHeight (C12.run (buildSt d) ops).doc ≤ Gen.Xml.maxDepth_element := by
  obtain ⟨c, _, habs, hdepth, _⟩ := C03.depth_refused _ _ text d rest h (by decide) (by decide)
  exact parsed_document_stays_within_depth d ops (Nat.le_trans (absDocument_depth c d habs) hdepth)

example : topsDepth [TopItem.elem (.elem ⟨none, ['r']⟩ [] [.elem ⟨none, ['a']⟩ [] [], .text ['t']])] = 2 := by decide

/-- the guard is what does it: when `tooDeep` says that the detached child would sit too deep under the parent,
    `insertChild` leaves the state as it was -/
theorem too_deep_insert_refused (s s1 : St) (p c : Nat) (ref : Option Nat) (pn x : Node)
    (hp : s.find p = some pn) (hd : s.detach c = (s1, some x)) (htd : tooDeep s1 pn x = true) :
    (insertChild s p c ref).1 = s := by
  rcases insertChild_cases s p c ref with ⟨e, h⟩ | ⟨pn', _, s1', x', hins, _⟩
  · rw [h]
  · cases hp.symm.trans hins.parent
    cases hd.symm.trans hins.detached
    rw [hins.shallow] at htd; cases htd

end XmlRs.C15
