import XmlRsModel.AttrNorm
/-! Property C11: attribute values are normalised and defaulted as XML 1.0 3.3.3 / 3.3.2 require.
    The executable model (`normalizedValue`, `expandEnt`, `collapseSpaces`, `elemAttrs`, `attDefsFor`,
    module `AttrNorm`) is characterised here by the sentences of the Recommendation. -/
namespace XmlRs.C11
open XmlRs

/-! ### 3.3.3, white space characters (#x20, #xD, #xA, #x9) become #x20 -/

theorem normWsChar_spec (c : Char) :
    normWsChar c = (if c = '\t' ∨ c = '\n' ∨ c = '\r' then ' ' else c) := by
  simp only [normWsChar, Bool.or_eq_true, beq_iff_eq, or_assoc]

theorem literal_ws_to_space (s : Str) :
    (normalizeWs s).length = s.length ∧
    (∀ c ∈ normalizeWs s, c ≠ '\t' ∧ c ≠ '\n' ∧ c ≠ '\r') ∧
    (∀ i (h : i < s.length), (normalizeWs s)[i]? =
        some (if s[i] = '\t' ∨ s[i] = '\n' ∨ s[i] = '\r' then ' ' else s[i])) := by
  refine ⟨by simp [normalizeWs], ?_, ?_⟩
  · intro c hc
    simp only [normalizeWs, List.mem_map] at hc
    obtain ⟨d, _, rfl⟩ := hc
    rw [normWsChar_spec]
    split
    · decide
    · next h => simp only [not_or] at h; exact h
  · intro i h
    simp [normalizeWs, List.getElem?_map, List.getElem?_eq_getElem h, normWsChar_spec]

theorem normalizeWs_idempotent (s : Str) : normalizeWs (normalizeWs s) = normalizeWs s := by
  simp only [normalizeWs, List.map_map]
  refine List.map_congr_left fun c _ => ?_
  rw [Function.comp, normWsChar_spec c]
  split
  · decide
  · next h => rw [normWsChar_spec, if_neg h]

/-- the value is built piece by piece, left to right (CDATA or undeclared attribute): an error in a piece is the
    error of the value -/
theorem go_append (t : EntTable) (ps qs : List Piece) : normalizedValue.go t (ps ++ qs) =
    (normalizedValue.go t ps).bind fun a => (normalizedValue.go t qs).map (a ++ ·) := by
  induction ps with
  | nil => cases h : normalizedValue.go t qs <;> simp [normalizedValue.go, Except.bind, Except.map, h]
  | cons p ps ih =>
    cases p with
    | text s =>
      simp only [List.cons_append, normalizedValue.go, ih]
      cases normalizedValue.go t ps <;> cases normalizedValue.go t qs <;> simp only [Except.bind, Except.map, List.append_assoc]
    | charRef d h =>
      simp only [List.cons_append, normalizedValue.go, ih]
      cases charOfRef d h <;> cases normalizedValue.go t ps <;> cases normalizedValue.go t qs <;> simp only [Except.bind, Except.map, List.cons_append]
    | entRef n =>
      simp only [List.cons_append, normalizedValue.go, ih]
      cases expandEnt t (t.length + 6) [] n <;> cases normalizedValue.go t ps <;> cases normalizedValue.go t qs <;>
        simp only [Except.bind, Except.map, List.append_assoc]
    | peRef n => rfl

theorem value_append (t : EntTable) (ps qs : List Piece) (a b : Str)
    (ha : normalizedValue.go t ps = .ok a) (hb : normalizedValue.go t qs = .ok b) :
    normalizedValue.go t (ps ++ qs) = .ok (a ++ b) := by
  rw [go_append, ha, hb]; rfl

theorem text_piece (t : EntTable) (s : Str) : normalizedValue.go t [.text s] = .ok (normalizeWs s) := by
  simp [normalizedValue.go]

/-- a character reference contributes the referenced character UNCHANGED — also a referenced tab,
    line feed or carriage return (`&#9;` stays a tab) -/
theorem charref_verbatim (t : EntTable) (d : Str) (h : Bool) (c : Char) (hc : charOfRef d h = some c) :
    normalizedValue.go t [.charRef d h] = .ok [c] := by
  simp [normalizedValue.go, hc]

example : normalizedValue [] (some .cdata) [.text "a\tb".toList, .charRef "9".toList false] = .ok "a b\t".toList := by
  have h : charOfRef "9".toList false = some '\t' := by decide +kernel
  simp only [normalizedValue, normalizedValue.go, h, Except.ok.injEq]; decide +kernel

theorem entref_piece (t : EntTable) (n : Str) :
    normalizedValue.go t [.entRef n] = (match expandEnt t (t.length + 6) [] n with
      | .ok a => .ok a | .error e => .error e) := by
  simp only [normalizedValue.go]
  split <;> simp_all

/-- inside an entity the three rules of 3.3.3 apply again: literal text of the replacement text has its
    white space normalised, character references inside it are verbatim -/
theorem entity_text_normalised (t : EntTable) (fuel : Nat) (name s : Str)
    (h : lookupEnt t name = some (.internal [.text s])) :
    expandEnt t (fuel + 1) [] name = .ok (normalizeWs s) := by
  simp [expandEnt, h, expandEnt.go]

theorem entity_charref_verbatim (t : EntTable) (fuel : Nat) (name d : Str) (hx : Bool) (c : Char)
    (h : lookupEnt t name = some (.internal [.charRef d hx])) (hc : charOfRef d hx = some c) :
    expandEnt t (fuel + 1) [] name = .ok [c] := by
  simp [expandEnt, h, expandEnt.go, hc]

/-- recursion: an entity whose replacement text is a reference to another entity expands to that
    entity's expansion -/
theorem entity_recursive (t : EntTable) (fuel : Nat) (a b : Str) (_hab : a ≠ b)
    (h : lookupEnt t a = some (.internal [.entRef b])) :
    expandEnt t (fuel + 2) [] a = (match expandEnt t (fuel + 1) [a] b with
      | .ok x => .ok x | .error e => .error e) := by
  rw [expandEnt]
  simp only [List.contains_nil, Bool.false_eq_true, if_false, h, expandEnt.go]
  split <;> simp_all

def collapsedFrom : Str → Bool
  | [] => true
  | [c] => c != ' '
  | c :: d :: r => !(c == ' ' && d == ' ') && collapsedFrom (d :: r)

/-- "leading and trailing space (#x20) characters discarded, sequences of spaces replaced by one" -/
def isCollapsed (s : Str) : Bool := s.head? != some ' ' && collapsedFrom s

private theorem go_collapsed (r : Str) : ∀ (x : Char) (pend : Bool), x ≠ ' ' →
    collapsedFrom (x :: collapseSpaces.go r pend) = true := by
  induction r with
  | nil => intro x pend hx; simp [collapseSpaces.go, collapsedFrom, hx]
  | cons c r ih =>
    intro x pend hx
    simp only [collapseSpaces.go]
    split
    · exact ih x true hx
    · next hc =>
      have hc' : c ≠ ' ' := by simpa using hc
      cases pend
      · simp [collapsedFrom, hx, ih c false hc']
      · simp [collapsedFrom, hx, hc', ih c false hc']

private theorem dropWhile_head {p : Char → Bool} (s : Str) (c : Char) (r : Str) (h : s.dropWhile p = c :: r) : p c = false := by
  have := List.head?_dropWhile_not p s
  rwa [h] at this

theorem collapse_is_collapsed (s : Str) : isCollapsed (collapseSpaces s) = true := by
  unfold collapseSpaces
  split
  · rfl
  · next c r h =>
    have hc : c ≠ ' ' := by simpa using dropWhile_head s c r h
    simp [isCollapsed, hc, go_collapsed r c false hc]

private theorem go_fix (r : Str) : ∀ x : Char, collapsedFrom (x :: r) = true →
    collapseSpaces.go r (x == ' ') = (if x == ' ' then ' ' :: r else r) := by
  induction r with
  | nil => intro x h; simp [collapsedFrom] at h; simp [collapseSpaces.go, h]
  | cons c r ih =>
    intro x h
    simp only [collapsedFrom, Bool.and_eq_true, Bool.not_eq_true', Bool.and_eq_false_iff] at h
    obtain ⟨h1, h2⟩ := h
    have ih' := ih c h2
    by_cases hx : x = ' '
    · subst hx
      have hc : c ≠ ' ' := by simpa using h1
      have hcb : (c == ' ') = false := by simpa using hc
      simp only [hcb, Bool.false_eq_true, if_false] at ih'
      simp [collapseSpaces.go, hcb, ih']
    · have hxb : (x == ' ') = false := by simpa using hx
      simp only [hxb, Bool.false_eq_true, if_false]
      by_cases hc : c = ' '
      · subst hc
        simp only [beq_self_eq_true, if_true] at ih'
        simp [collapseSpaces.go, ih']
      · have hcb : (c == ' ') = false := by simpa using hc
        simp only [hcb, Bool.false_eq_true, if_false] at ih'
        simp [collapseSpaces.go, hcb, ih']

theorem collapse_fixed (s : Str) (h : isCollapsed s = true) : collapseSpaces s = s := by
  cases s with
  | nil => rfl
  | cons c r =>
    simp only [isCollapsed, List.head?_cons, Bool.and_eq_true, bne_iff_ne, ne_eq, Option.some.injEq] at h
    obtain ⟨hc, h2⟩ := h
    have hcb : (c == ' ') = false := by simpa using hc
    have := go_fix r c h2
    simp only [hcb, Bool.false_eq_true, if_false] at this
    simp [collapseSpaces, List.dropWhile, hcb, this]

theorem collapse_idempotent (s : Str) : collapseSpaces (collapseSpaces s) = collapseSpaces s :=
  collapse_fixed _ (collapse_is_collapsed s)

private theorem go_filter (r : Str) : ∀ pend, (collapseSpaces.go r pend).filter (· != ' ') = r.filter (· != ' ') := by
  induction r with
  | nil => intro p; simp [collapseSpaces.go]
  | cons c r ih =>
    intro pend
    simp only [collapseSpaces.go]
    split
    · next hc =>
      have : (c != ' ') = false := by simp [bne, hc]
      rw [List.filter_cons, this, ih]; rfl
    · next hc =>
      have : (c != ' ') = true := by simpa [bne] using hc
      have hsp : ((' ' : Char) != ' ') = false := by decide
      cases pend
      · simp only [Bool.false_eq_true, if_false]
        rw [List.filter_cons, List.filter_cons, this, ih]
      · simp only [if_true]
        rw [List.filter_cons, List.filter_cons, List.filter_cons, hsp, this, ih]; rfl

private theorem dropWhile_filter : ∀ s : Str, (s.dropWhile (· == ' ')).filter (· != ' ') = s.filter (· != ' ')
  | [] => rfl
  | c :: s => by
      simp only [List.dropWhile]
      split
      · next h =>
        have : (c != ' ') = false := by simp [bne, h]
        rw [List.filter_cons, this, dropWhile_filter s]; rfl
      · rfl

theorem collapse_keeps_nonspace (s : Str) :
    (collapseSpaces s).filter (· != ' ') = s.filter (· != ' ') := by
  rw [← dropWhile_filter s]
  unfold collapseSpaces
  split
  · next h => simp [h]
  · next c r h =>
    have hc : (c != ' ') = true := by simp [bne, dropWhile_head s c r h]
    rw [h, List.filter_cons, List.filter_cons, hc, go_filter]

/-- declared type other than CDATA: the CDATA result, then collapsed; CDATA and undeclared
    attributes: nothing further -/
theorem tokenized_collapsed (t : EntTable) (ty : AttType) (vs : List Piece) (hty : ty ≠ .cdata) :
    normalizedValue t (some ty) vs = (match normalizedValue t (some .cdata) vs with
      | .ok v => .ok (collapseSpaces v) | .error e => .error e) := by
  unfold normalizedValue
  cases normalizedValue.go t vs with
  | error e => rfl
  | ok v => cases ty <;> simp_all

theorem tokenized_result_collapsed (t : EntTable) (ty : AttType) (vs : List Piece) (v : Str)
    (hty : ty ≠ .cdata) (h : normalizedValue t (some ty) vs = .ok v) : isCollapsed v = true := by
  rw [tokenized_collapsed t ty vs hty] at h
  split at h
  · cases h; exact collapse_is_collapsed _
  · cases h

theorem cdata_untouched_otherwise (t : EntTable) (vs : List Piece) :
    normalizedValue t (some .cdata) vs = normalizedValue t none vs := by
  unfold normalizedValue; cases normalizedValue.go t vs <;> rfl

example : normalizedValue [] (some .nmtokens) [.text "  a \t b  ".toList] = .ok "a b".toList := by
  simp only [normalizedValue, text_piece, Except.ok.injEq]; decide +kernel
example : normalizedValue [] (some .cdata) [.text "  a \t b  ".toList] = .ok "  a   b  ".toList := by
  simp only [normalizedValue, text_piece, Except.ok.injEq]; decide +kernel
example : normalizedValue [] (some .nmtokens) [.text " a".toList, .charRef "32".toList false, .charRef "x20".toList true, .text "b ".toList]
    = .ok "a b".toList := by
  have h1 : charOfRef "32".toList false = some ' ' := by decide +kernel
  have h2 : charOfRef "x20".toList true = some ' ' := by decide +kernel
  simp only [normalizedValue, normalizedValue.go, h1, h2, Except.ok.injEq]; decide +kernel

/-! ### 3.3.2 defaults -/

/-- the attributes of an element: exactly those written in the tag (flagged specified), plus one per
    attribute definition with a default or #FIXED value whose name is not written (flagged not
    specified, carrying the declared default); nothing for #IMPLIED and #REQUIRED -/
theorem attributes_spec (dt : Option Doctype) (e : QN) (attrs : List Attr) (x : Attr × Bool) :
    x ∈ elemAttrs false dt e attrs ↔
      (x.2 = true ∧ x.1 ∈ attrs) ∨
      (x.2 = false ∧ ∃ d ∈ attDefsFor dt e, ∃ f vs, d.dflt = .value f vs ∧ x.1 = ⟨d.name, vs⟩ ∧
         ∀ a ∈ attrs, a.name ≠ d.name) := by
  obtain ⟨a, b⟩ := x
  simp only [elemAttrs, List.mem_append, List.mem_map, Prod.mk.injEq, List.mem_filterMap]
  constructor
  · rintro (⟨a', ha', rfl, rfl⟩ | ⟨d, hd, h⟩)
    · exact Or.inl ⟨rfl, ha'⟩
    · right
      split at h
      · cases h
      · next hnot =>
        split at h
        · next f vs hv =>
          simp only [Option.some.injEq, Prod.mk.injEq] at h
          obtain ⟨rfl, rfl⟩ := h
          refine ⟨rfl, d, hd, f, vs, hv, rfl, ?_⟩
          intro a ha heq
          apply hnot
          simp only [List.any_eq_true, beq_iff_eq]
          exact ⟨a, ha, heq⟩
        · simp at h
        · cases h
  · rintro (⟨rfl, ha⟩ | ⟨rfl, d, hd, f, vs, hv, rfl, hno⟩)
    · exact Or.inl ⟨a, ha, rfl, rfl⟩
    · right
      refine ⟨d, hd, ?_⟩
      have : attrs.any (fun x => x.name == d.name) = false := by
        rw [Bool.eq_false_iff]
        intro hany
        simp only [List.any_eq_true, beq_iff_eq] at hany
        obtain ⟨a, ha, heq⟩ := hany
        exact hno a ha heq
      simp [this, hv]

/-- #IMPLIED and #REQUIRED attributes appear only when written -/
theorem implied_required_absent (dt : Option Doctype) (e : QN) (attrs : List Attr) (a : Attr)
    (h : (a, false) ∈ elemAttrs false dt e attrs) :
    ∃ d ∈ attDefsFor dt e, d.name = a.name ∧ d.dflt ≠ .implied ∧ d.dflt ≠ .required := by
  rw [attributes_spec] at h
  rcases h with ⟨h, _⟩ | ⟨_, d, hd, f, vs, hv, hx, _⟩
  · cases h
  · simp only at hx
    exact ⟨d, hd, by rw [hx], by rw [hv]; simp, by rw [hv]; simp⟩

theorem specified_flag (dt : Option Doctype) (e : QN) (attrs : List Attr) (a : Attr) (h : a ∈ attrs) :
    (a, true) ∈ elemAttrs false dt e attrs := by
  rw [attributes_spec]; exact Or.inl ⟨rfl, h⟩

/-! ### every attribute-list declaration of the element type is consulted; the first definition of a
    name is binding -/

private def mergeDefs (acc : List AttDef) (d : AttDef) : List AttDef :=
  if acc.any (·.name == d.name) then acc else acc ++ [d]

private theorem foldl_merge (ds : List AttDef) : ∀ acc : List AttDef, ∃ r, ds.foldl mergeDefs acc = acc ++ r ∧
    (∀ d ∈ r, d ∈ ds) ∧ ∀ d ∈ ds, ∃ d' ∈ acc ++ r, d'.name = d.name := by
  induction ds with
  | nil => exact fun acc => ⟨[], (List.append_nil acc).symm, fun _ h => (List.not_mem_nil h).elim, fun _ h => (List.not_mem_nil h).elim⟩
  | cons x ds ih =>
    intro acc
    rw [List.foldl_cons]
    by_cases hany : acc.any (·.name == x.name) = true
    · obtain ⟨r, e, h1, h2⟩ := ih acc
      rw [show mergeDefs acc x = acc from if_pos hany]
      refine ⟨r, e, fun d hd => List.mem_cons_of_mem _ (h1 d hd), fun d hd => ?_⟩
      rcases List.mem_cons.mp hd with rfl | hd
      · obtain ⟨d', hd', hn⟩ := List.any_eq_true.mp hany
        exact ⟨d', List.mem_append_left _ hd', by simpa using hn⟩
      · exact h2 d hd
    · obtain ⟨r, e, h1, h2⟩ := ih (acc ++ [x])
      rw [show mergeDefs acc x = acc ++ [x] from if_neg hany, e, List.append_assoc]
      refine ⟨x :: r, rfl, fun d hd => ?_, fun d hd => ?_⟩
      · rcases List.mem_cons.mp hd with rfl | hd
        · exact List.mem_cons_self
        · exact List.mem_cons_of_mem _ (h1 d hd)
      · rcases List.mem_cons.mp hd with rfl | hd
        · exact ⟨d, by simp, rfl⟩
        · simpa using h2 d hd

/-- every definition consulted comes from an ATTLIST for this element type, and every definition
    in ANY ATTLIST for this element type is represented (by the first definition of that name) -/
theorem all_attlists_consulted (dt : Doctype) (e : QN) :
    (∀ d ∈ attDefsFor (some dt) e, ∃ defs, DtdItem.attlist e defs ∈ dt.kids ∧ d ∈ defs) ∧
    (∀ defs d, DtdItem.attlist e defs ∈ dt.kids → d ∈ defs →
       ∃ d' ∈ attDefsFor (some dt) e, d'.name = d.name) := by
  obtain ⟨r, hr, h1, h2⟩ := foldl_merge
    (dt.kids.flatMap fun | .attlist n defs => if n == e then defs else [] | _ => []) []
  have hmem : ∀ d, d ∈ (dt.kids.flatMap fun | .attlist n defs => if n == e then defs else [] | _ => []) ↔
      ∃ defs, DtdItem.attlist e defs ∈ dt.kids ∧ d ∈ defs := by
    intro d
    simp only [List.mem_flatMap]
    constructor
    · rintro ⟨k, hk, hd⟩
      cases k with
      | attlist n defs =>
        simp only at hd
        split at hd
        · next hn => have : n = e := by simpa using hn
                     subst this; exact ⟨defs, hk, hd⟩
        · simp at hd
      | _ => simp at hd
    · rintro ⟨defs, hk, hd⟩
      exact ⟨_, hk, by simp [hd]⟩
  have ha : attDefsFor (some dt) e = r := hr.trans (List.nil_append r)
  rw [ha]
  exact ⟨fun d hd => (hmem d).1 (h1 d hd), fun defs d hk hd => h2 d ((hmem d).2 ⟨defs, hk, hd⟩)⟩

/-! ### a name declared twice: the first declaration binds (XML 1.0 4.2 for entities, 3.3 for attribute definitions) -/

private theorem find_undeclared {t : EntTable} {n : Str} (h : ∀ p ∈ t, p.1 ≠ n) : t.find? (·.1 == n) = none :=
  List.find?_eq_none.mpr fun p hp => by simpa using h p hp

/-- ENTITIES: whatever is declared after the first declaration of `n` - another declaration of `n` included - does not change
    what `n` stands for -/
theorem first_entity_declaration_binds (before after : EntTable) (n : Str) (e : EntDef)
    (hb : ∀ p ∈ before, p.1 ≠ n) : lookupEnt (before ++ (n, e) :: after) n = some e := by
  rw [lookupEnt, List.find?_append, find_undeclared hb, List.find?_cons_of_pos (by exact beq_self_eq_true n)]; rfl

theorem second_entity_declaration_ignored (before mid after : EntTable) (n : Str) (e e' : EntDef)
    (hb : ∀ p ∈ before, p.1 ≠ n) :
    lookupEnt (before ++ (n, e) :: (mid ++ (n, e') :: after)) n = lookupEnt (before ++ (n, e) :: (mid ++ after)) n := by
  rw [first_entity_declaration_binds before _ n e hb, first_entity_declaration_binds before _ n e hb]

theorem undeclared_falls_back_to_predefined (t : EntTable) (n : Str) (h : ∀ p ∈ t, p.1 ≠ n) :
    lookupEnt t n = (predefined.find? (·.1 == n)).map (·.2) := by
  rw [lookupEnt, find_undeclared h]

theorem mergeDefs_keeps_first (acc : List AttDef) (d : AttDef) (h : acc.any (·.name == d.name) = true) :
    (if acc.any (·.name == d.name) then acc else acc ++ [d]) = acc := by
  rw [if_pos h]

/-- the fold `attDefsFor` runs over the definitions it has gathered keeps the first of them at the head, whatever
    follows: definitions already collected are never replaced or reordered -/
theorem first_attribute_definition_binds (l : List AttDef) (d : AttDef) :
    ∃ r, (d :: l).foldl (fun acc x => if acc.any (·.name == x.name) then acc else acc ++ [x]) [] = d :: r := by
  obtain ⟨r, hr, _⟩ := foldl_merge l [d]
  exact ⟨r, hr⟩

example : lookupEnt [(['e'], .internal [.text ['1']]), (['x'], .internal []), (['e'], .internal [.text ['2']])] ['e'] =
    some (.internal [.text ['1']]) := by decide

end XmlRs.C11
