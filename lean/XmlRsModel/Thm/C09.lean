import XmlRsModel.XPath.Eval
/-! Property C09: core functions and operators compute the XPath 1.0 scalar semantics.
    The string functions are characterised for ALL arguments by the sentences of section 4.2; the
    numeric functions are total functions on bit patterns defined by exact natural-number arithmetic
    (module `XPath.Num`): their special-value and tie behaviour is stated here for the whole classes
    "every NaN / infinity / zero" and, where a statement ranges over all doubles, proved through the
    exact decoding.  Statements that are only evaluated instances are marked `example` (tests, not
    theorems). -/
namespace XmlRs.C09
open XmlRs XmlRs.XPath

/-! ### 4.2 string functions -/

/-- string-length counts characters (the model's strings are lists of Unicode scalar values) -/
theorem string_length_chars (env : XPath.Env) (c : Ctx) (s : Str) :
    applyFunc env c "string-length" [.str s] = .ok (.num (ofNat s.length)) := by
  unfold applyFunc; rfl

/-- substring, declaratively: the characters whose 1-based position i satisfies
    round(p) <= i and (if l is given) i < round(p) + round(l), comparisons and sum in IEEE arithmetic -/
def inWindow (p : Bits) (l : Option Bits) (i : Nat) : Bool :=
  leB (roundB p) (ofNat i) && (match l with | some x => ltB (ofNat i) (addB (roundB p) (roundB x)) | none => true)

theorem substring_go_spec (p : Bits) (l : Option Bits) : ∀ (s : Str) (i : Nat),
    substringS.go (roundB p) (l.map fun x => addB (roundB p) (roundB x)) s i =
      ((s.zipIdx i).filter (fun ci => inWindow p l ci.2)).map (·.1)
  | [], _ => rfl
  | c :: r, i => by
    rw [List.zipIdx_cons, List.filter_cons, apply_ite (List.map _), List.map_cons, ← substring_go_spec p l r (i + 1)]
    -- what is left is the defining equation of `go`, its test written as `inWindow p l i`
    cases l <;> rfl

theorem substring_spec (s : Str) (p : Bits) (l : Option Bits) :
    substringS s p l = ((s.zipIdx 1).filter (fun ci => inWindow p l ci.2)).map (·.1) := by
  unfold substringS; exact substring_go_spec p l s 1

/-- the result is always a subsequence of the argument: no panic, no invented or split character -/
theorem substring_sublist (s : Str) (p : Bits) (l : Option Bits) : (substringS s p l).Sublist s := by
  have h := (List.filter_sublist (l := s.zipIdx 1) (p := fun ci => inWindow p l ci.2)).map (·.1)
  rwa [← substring_spec, List.zipIdx_map_fst] at h

/-- NaN as start selects nothing (no position compares with NaN); NaN as length: see the instances below -/
theorem inWindow_nan_start (l : Option Bits) (i : Nat) : inWindow nanBits l i = false := by
  have hr : roundB nanBits = nanBits := by decide +kernel
  have hd : decode nanBits = .nan := by decide +kernel
  have hc : cmpB nanBits (ofNat i) = none := by rw [cmpB, hd]
  simp only [inWindow, leB, hr, hc]; rfl

theorem translate_spec (frm to : Str) (c : Char) :
    translateS [c] frm to = (match frm.findIdx? (· == c) with
      | none => [c]
      | some i => (match to[i]? with | some d => [d] | none => [])) := by
  simp only [translateS, List.filterMap_cons, List.filterMap_nil]
  cases frm.findIdx? (· == c) with
  | none => simp
  | some i => cases h : to[i]? <;> simp [h]

theorem translate_append (a b frm to : Str) :
    translateS (a ++ b) frm to = translateS a frm to ++ translateS b frm to := by
  simp [translateS, List.filterMap_append]

theorem translate_length_le (s frm to : Str) : (translateS s frm to).length ≤ s.length := by
  unfold translateS; exact List.length_filterMap_le _ _

theorem translate_untouched (s frm to : Str) (h : ∀ c ∈ s, c ∉ frm) : translateS s frm to = s := by
  induction s with
  | nil => rfl
  | cons c r ih =>
    have hc : frm.findIdx? (· == c) = none :=
      List.findIdx?_eq_none_iff.2 fun x hx => beq_false_of_ne fun (e : x = c) => h c (.head _) (e ▸ hx)
    rw [translateS, List.filterMap_cons, hc]
    exact congrArg (c :: ·) (ih fun c' hc' => h c' (.tail _ hc'))

theorem translate_nothing (s to : Str) : translateS s [] to = s :=
  translate_untouched s [] to fun _ _ => List.not_mem_nil

theorem starts_with_iff (s p : Str) : startsWithS s p = true ↔ ∃ r, s = p ++ r := by
  rw [startsWithS, Option.isSome_iff_exists]
  exact ⟨fun ⟨r, h⟩ => ⟨r, stripPrefix_some h⟩, fun ⟨r, h⟩ => ⟨r, h ▸ stripPrefix_append p r⟩⟩

theorem findSub_some : ∀ (p s : Str) (i : Nat), findSub p s = some i →
    s = s.take i ++ p ++ s.drop (i + p.length)
  | p, [], i, h => by
      rw [findSub] at h
      split at h
      · next hp => cases h; subst hp; rfl
      · cases h
  | p, c :: cs, i, h => by
      rw [findSub] at h
      split at h
      · next r hr => cases h; rw [stripPrefix_some hr, Nat.zero_add, List.drop_left]; rfl
      · cases hf : findSub p cs with
        | none => rw [hf] at h; cases h
        | some j =>
          rw [hf] at h; cases h
          rw [List.take_succ_cons, Nat.add_right_comm, List.drop_succ_cons]
          exact congrArg (c :: ·) (findSub_some p cs j hf)

theorem before_after_spec (s p : Str) (h : containsS s p = true) :
    s = substringBefore s p ++ p ++ substringAfter s p := by
  unfold containsS at h
  cases hf : findSub p s with
  | none => rw [hf] at h; cases h
  | some i => simp only [substringBefore, substringAfter, hf]; exact findSub_some p s i hf

theorem not_contains_gives_empty (s p : Str) (h : containsS s p = false) :
    substringBefore s p = [] ∧ substringAfter s p = [] := by
  unfold containsS at h
  cases hf : findSub p s with
  | none => simp only [substringBefore, substringAfter, hf, and_self]
  | some i => rw [hf] at h; cases h

/-! ### 4.4 number functions: special values (whole classes), then evaluated instances -/

theorem round_specials : roundB nanBits = nanBits ∧ roundB (infBits false) = infBits false ∧
    roundB (infBits true) = infBits true ∧ roundB (zeroBits false) = zeroBits false ∧
    roundB (zeroBits true) = zeroBits true := by decide +kernel

theorem floor_ceiling_specials : floorB nanBits = nanBits ∧ ceilB nanBits = nanBits ∧
    floorB (infBits true) = infBits true ∧ ceilB (infBits false) = infBits false ∧
    floorB (zeroBits true) = zeroBits true ∧ ceilB (zeroBits true) = zeroBits true := by decide +kernel

/-- an argument that is already an integer (no fraction bits below the binary point) is returned
    unchanged by floor, ceiling and round — in particular every double of magnitude >= 2^52 -/
theorem integral_unchanged (b : Bits) (neg : Bool) (m : Nat) (e : Int) (hd : decode b = .fin neg m e)
    (hi : (floorDy m e).2 = false) : floorB b = b ∧ ceilB b = b ∧ roundB b = b := by
  simp [floorB, ceilB, roundB, hd, hi]

theorem nonneg_exponent_integral (m : Nat) (e : Int) (he : 0 ≤ e) : (floorDy m e).2 = false := by
  simp [floorDy, he]

theorem fmt_specials (b : Bits) :
    (decode b = .nan → fmtNum b = "NaN".toList) ∧
    (decode b = .inf false → fmtNum b = "Infinity".toList) ∧
    (decode b = .inf true → fmtNum b = "-Infinity".toList) ∧
    (∀ neg e, decode b = .fin neg 0 e → fmtNum b = "0".toList) := by
  refine ⟨fun h => ?_, fun h => ?_, fun h => ?_, fun neg e h => ?_⟩ <;> rw [fmtNum, h] <;> rfl

/-- string -> number: anything that is not  ws* '-'? Number ws*  is NaN (instances below: an exponent, a plus sign,
    the word Infinity) -/
theorem parseNum_rejects (s : Str) (h : parseDecimal (splitSign (trimWs s)).2 = none) :
    parseNum s = nanBits := by
  rw [parseNum, h]

/-- ... and what is of that form is `ofRat` of the decimal (`XPath/Num.lean`: the nearest double, ties to even) -/
theorem parseNum_accepts (s : Str) (n f : Nat) (h : parseDecimal (splitSign (trimWs s)).2 = some (n, f)) :
    parseNum s = ofRat (splitSign (trimWs s)).1 n (10 ^ f) := by
  rw [parseNum, h]

/-! evaluated instances (tests of the definitions above on the Recommendation's examples) -/
example : substringS "12345".toList (parseNum "1.5".toList) (some (parseNum "2.6".toList)) = "234".toList := by decide +kernel
example : substringS "12345".toList 0 (some (ofNat 3)) = "12".toList := by decide +kernel
example : substringS "12345".toList nanBits (some (ofNat 3)) = [] := by decide +kernel
example : substringS "12345".toList (ofNat 1) (some nanBits) = [] := by decide +kernel
example : substringS "12345".toList (ofInt (-42)) (some (infBits false)) = "12345".toList := by decide +kernel
example : substringS "12345".toList (infBits true) (some (infBits false)) = [] := by decide +kernel
example : roundB (parseNum "-0.5".toList) = zeroBits true := by decide +kernel
example : roundB (parseNum "2.5".toList) = ofNat 3 := by decide +kernel
example : roundB (parseNum "-1.5".toList) = ofInt (-1) := by decide +kernel
example : roundB (parseNum "0.49999999999999994".toList) = 0 := by decide +kernel
example : fmtNum (divB (ofNat 1) (ofNat 3)) = "0.3333333333333333".toList := by decide +kernel
example : fmtNum (parseNum "1000000000000000000000".toList) = "1000000000000000000000".toList := by decide +kernel
example : fmtNum (negB 0) = "0".toList := by decide +kernel
example : parseNum " 12 ".toList = ofNat 12 ∧ parseNum "1e3".toList = nanBits ∧ parseNum "+1".toList = nanBits ∧
    parseNum "Infinity".toList = nanBits ∧ parseNum ".5".toList = divB (ofNat 1) (ofNat 2) ∧
    parseNum "5.".toList = ofNat 5 := by decide +kernel
example : divB (ofNat 1) (negB 0) = infBits true := by decide +kernel
example : modB (ofNat 5) (ofInt (-2)) = ofNat 1 ∧ modB (ofInt (-5)) (ofNat 2) = ofInt (-1) := by decide +kernel

def wellSpaced : Str → Bool
  | [] => true
  | c :: r => (if isXmlWs c then c == ' ' && (match r with | d :: _ => !isXmlWs d | [] => false) else true) && wellSpaced r

theorem go_wellSpaced : ∀ (r : Str) (pend : Bool), wellSpaced (normalizeSpace.go r pend) = true
  | [], _ => rfl
  | c :: r, pend => by
    cases hc : isXmlWs c
    · cases pend <;> simp [normalizeSpace.go, hc, wellSpaced, go_wellSpaced r false, show isXmlWs ' ' = true from rfl]
    · simp only [normalizeSpace.go, hc, if_true]; exact go_wellSpaced r true

theorem go_nonws : ∀ (r : Str) (pend : Bool),
    (normalizeSpace.go r pend).filter (fun c => !isXmlWs c) = r.filter (fun c => !isXmlWs c)
  | [], _ => rfl
  | c :: r, pend => by
    cases hc : isXmlWs c
    · cases pend <;> simp [normalizeSpace.go, hc, go_nonws r false, show isXmlWs ' ' = true from rfl]
    · simp [normalizeSpace.go, hc, go_nonws r true]

theorem filter_dropWhile_ws : ∀ s : Str,
    (s.dropWhile isXmlWs).filter (fun c => !isXmlWs c) = s.filter (fun c => !isXmlWs c)
  | [] => rfl
  | c :: r => by cases hc : isXmlWs c <;> simp [List.dropWhile, hc, filter_dropWhile_ws r]

theorem normalize_space_keeps_nonws (s : Str) :
    (normalizeSpace s).filter (fun c => !isXmlWs c) = s.filter (fun c => !isXmlWs c) := by
  rw [← filter_dropWhile_ws s]
  unfold normalizeSpace
  cases h : s.dropWhile isXmlWs with
  | nil => rfl
  | cons c r =>
    simp only [List.filter_cons, go_nonws]

/-- in the result every white-space character is one U+0020 between two non-white-space characters:
    no leading, no trailing, no repeated white space, and tab / CR / LF never survive -/
theorem normalize_space_wellSpaced (s : Str) :
    wellSpaced (normalizeSpace s) = true ∧ (∀ c, (normalizeSpace s).head? = some c → isXmlWs c = false) := by
  unfold normalizeSpace
  cases h : s.dropWhile isXmlWs with
  | nil => exact ⟨rfl, by simp⟩
  | cons c r =>
    have hc : isXmlWs c = false := by
      have := List.head_dropWhile_not isXmlWs (l := s) (by simp [h])
      simpa [h] using this
    refine ⟨by simp [wellSpaced, hc, go_wellSpaced], ?_⟩
    intro c' hc'; simp at hc'; subst hc'; exact hc

example : normalizeSpace " \ta  b\n c ".toList = "a b c".toList ∧ wellSpaced "a b c".toList = true ∧
    wellSpaced "a  b".toList = false ∧ wellSpaced "a ".toList = false := by decide +kernel

theorem wellSpaced_tail (c : Char) (r : Str) (h : wellSpaced (c :: r) = true) : wellSpaced r = true := by
  simp only [wellSpaced, Bool.and_eq_true] at h; exact h.2

theorem go_fixed (t : Str) : wellSpaced t = true →
    normalizeSpace.go t false = t ∧
    (∀ hd tl, t = hd :: tl → isXmlWs hd = false → normalizeSpace.go t true = ' ' :: t) := by
  induction t with
  | nil => exact fun _ => ⟨rfl, nofun⟩
  | cons c r ih =>
    intro h
    obtain ⟨ih1, ih2⟩ := ih (wellSpaced_tail c r h)
    constructor
    · cases hc : isXmlWs c
      · simp only [normalizeSpace.go, hc, Bool.false_eq_true, if_false, ih1]
      · -- a white-space character of a well-spaced string is one space before a character that is none
        simp only [wellSpaced, hc, if_true, Bool.and_eq_true, beq_iff_eq] at h
        obtain ⟨⟨rfl, hd⟩, _⟩ := h
        cases r with
        | nil => cases hd
        | cons d r' =>
          simp only [normalizeSpace.go, hc, if_true]
          exact ih2 d r' rfl (Bool.not_eq_true' _ ▸ hd)
    · rintro hd tl ⟨⟩ hhd
      simp only [normalizeSpace.go, hhd, Bool.false_eq_true, if_false, if_true, ih1]

theorem normalize_space_fixed (t : Str) (h : wellSpaced t = true)
    (hh : ∀ c, t.head? = some c → isXmlWs c = false) : normalizeSpace t = t := by
  cases t with
  | nil => rfl
  | cons c r =>
    have hc : isXmlWs c = false := hh c rfl
    unfold normalizeSpace
    simp only [List.dropWhile, hc]
    rw [(go_fixed r (wellSpaced_tail c r h)).1]

theorem normalize_space_idempotent (s : Str) : normalizeSpace (normalizeSpace s) = normalizeSpace s :=
  normalize_space_fixed _ (normalize_space_wellSpaced s).1 (normalize_space_wellSpaced s).2

end XmlRs.C09
