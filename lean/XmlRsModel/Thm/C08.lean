import XmlRsModel.XPath.Eval
import XmlRsModel.Lemmas.PegSound
import XmlRsModel.Lemmas.XDepth
import XmlRsModel.Thm.C05
import XmlRsModel.Thm.C19
/-! Property C08: equivalent XPath spellings evaluate identically; precedence per grammar.
    The abbreviations are removed by the abstraction `CST → Expr` (`XPath/Ast.lean`), which maps the abbreviated and the
    unabbreviated spelling to the same abstract syntax.  Proved here: what `.`, `..`, `//`, `[n]` mean on abstract syntax;
    that an accepted expression is a derivation of the layered grammar generated from the source (or < and < equality <
    relational < additive < multiplicative < unary < union) consuming the whole string; and, over concrete expressions
    (`XPath/Concrete.lean`: an abstract expression plus every surface choice), that every well-formed spelling `e` is
    parsed to the expression `e.erase` it denotes (`spelling_parses`), hence two spellings of one expression evaluate
    identically (`equivalent_spellings_evaluate_identically`). -/
namespace XmlRs.C08
open XmlRs XmlRs.XPath

theorem dot_is_self_node (env : XPath.Env) (k : Key) : evalStep env (.mk .self .node []) k = .ok [k] := by
  simp [evalStep, axisKeys, evalStep.tests, nodeTest, filterPreds]

/-- `..` selects the parent (for an attribute or namespace node: the owner element; for the root: nothing) -/
theorem dotdot_is_parent_node (env : XPath.Env) (k : Key) :
    evalStep env (.mk .parent .node []) k = .ok (match parentKey k with | some p => [p] | none => []) := by
  simp only [evalStep, axisKeys, filterPreds]
  cases parentKey k <;> simp [evalStep.tests, nodeTest]

/-- `//` is `/descendant-or-self::node()/`: the abstraction inserts exactly that step -/
theorem dslash_step : dosStep = .mk .descendantOrSelf .node [] := rfl

private theorem ord_eq_swap (i j : Int) :
    ((if i < j then Ordering.lt else if i == j then Ordering.eq else Ordering.gt) == Ordering.eq) =
    ((if j < i then Ordering.lt else if j == i then Ordering.eq else Ordering.gt) == Ordering.eq) := by
  rcases Int.lt_trichotomy i j with h | rfl | h
  · simp [h, Int.lt_asymm h, Int.ne_of_gt h]
  · rfl
  · simp [h, Int.lt_asymm h, Int.ne_of_gt h]

/-- both orders scale to the smaller exponent -/
private theorem align_swap (m1 : Nat) (e1 : Int) (m2 : Nat) (e2 : Int) :
    (align m1 e1 m2 e2).1 = (align m2 e2 m1 e1).2.1 ∧ (align m1 e1 m2 e2).2.1 = (align m2 e2 m1 e1).1 := by
  have : (if e1 ≤ e2 then e1 else e2) = (if e2 ≤ e1 then e2 else e1) := by split <;> split <;> omega
  simp only [align, this, and_self]

private theorem cmpB_swap (a b : Bits) : (cmpB a b == some .eq) = (cmpB b a == some .eq) := by
  unfold cmpB
  cases decode a with
  | nan => cases decode b <;> simp
  | inf s =>
    cases decode b with
    | nan => simp
    | inf t => cases s <;> cases t <;> simp
    | fin t m e => cases s <;> simp
  | fin s m1 e1 =>
    cases decode b with
    | nan => simp
    | inf t => cases t <;> simp
    | fin t m2 e2 =>
      obtain ⟨ha, hb⟩ := align_swap m1 e1 m2 e2
      simp only [ha, hb]
      generalize (align m2 e2 m1 e1).1 = p
      generalize (align m2 e2 m1 e1).2.1 = q
      have := ord_eq_swap (if s then -(q : Int) else q) (if t then -(p : Int) else p)
      simpa using this

theorem eqB_comm (a b : Bits) : eqB a b = eqB b a := by unfold eqB; exact cmpB_swap a b

/-- `[n]` is `[position() = n]` for EVERY number n (also fractions, NaN, negative numbers): both
    predicates keep exactly the same nodes -/
theorem numeric_predicate (env : XPath.Env) (s : Str) : ∀ (ks : List Key) (i n : Nat),
    filterOne env (.num s) ks i n =
      filterOne env (.bin .eq (.call ⟨none, "position".toList⟩ []) (.num s)) ks i n
  | [], _, _ => by simp only [filterOne]
  | k :: r, i, n => by
      have hc : XPath.compare env.doc .eq (.num (ofNat i)) (.num (parseNum s)) = eqB (parseNum s) (ofNat i) := by
        rw [eqB_comm]; simp only [XPath.compare, cmpScalar, toNum]; rfl
      rw [C05.numeric_predicate_is_position_test, numeric_predicate env s r (i + 1) n]
      simp only [filterOne, eval, (C19.top_level_position env ⟨k, i, n⟩).1, cmpOf, hc, XPath.toBool]
      cases filterOne env (.bin .eq (.call ⟨none, "position".toList⟩ []) (.num s)) r (i + 1) n <;> rfl

/-- the names of the axes that the abbreviations stand for are read as those axes (that an omitted axis is `child::` and
    `@` is `attribute::` is in `abbreviations_denote_their_expansions`) -/
theorem abbreviated_axes (nm : Str) : axisOfName "child" = .child ∧ axisOfName "attribute" = .attribute ∧
    axisOfName "descendant-or-self" = .descendantOrSelf ∧ axisOfName "self" = .self ∧ axisOfName "parent" = .parent := by
  simp only [axisOfName, String.reduceToList]; decide

private theorem parseExpr_ok {s : Str} {e : Expr} (h : parseExpr s = .ok e) :
    ∃ c, run Gen.XPath.env (xpathFuel s) (.nt Gen.XPath.N.parse) s = .ok c [] ∧
      (Gen.XPath.maxDepth_expr ≠ 0 → exprDepth c ≤ Gen.XPath.maxDepth_expr) := by
  unfold parseExpr parseExprFuel at h
  split at h
  · cases h
  · cases h
  · next c rest hr =>
    split at h
    · cases h
    · next hd =>
      cases rest with
      | cons x r => cases h
      | nil => exact ⟨c, hr, fun hlim => Nat.le_of_not_lt fun hgt => hd (by simp [hlim, hgt])⟩

/-- an accepted expression is a derivation of the generated (layered) grammar that spells exactly the
    whole input: operators bind as the productions nest -/
theorem parse_sound (s : Str) (e : Expr) (h : parseExpr s = .ok e) :
    ∃ c, Derives Gen.XPath.env (.nt Gen.XPath.N.parse) c ∧ c.flatten = s := by
  obtain ⟨c, hr, _⟩ := parseExpr_ok h
  obtain ⟨hd, hf⟩ := run_derives hr
  exact ⟨c, hd, by simpa using hf⟩

/-- no accepted expression nests parentheses, predicates and function arguments deeper than the
    limit read from the source: every recursion over an accepted expression is bounded -/
theorem depth_refused (s : Str) (e : Expr) (h : parseExpr s = .ok e) (hlim : Gen.XPath.maxDepth_expr ≠ 0) :
    ∃ c rest, run Gen.XPath.env (xpathFuel s) (.nt Gen.XPath.N.parse) s = .ok c rest ∧
      exprDepth c ≤ Gen.XPath.maxDepth_expr := by
  obtain ⟨c, hr, hd⟩ := parseExpr_ok h
  exact ⟨c, [], hr, hd hlim⟩

open XmlRs.XLex in
theorem spelling_runs (e : CX) (hok : e.ok = true) :
    Runs Gen.XPath.env (.nt Gen.XPath.N.parse) e.str (.ok (.node Gen.XPath.N.parse (.node Gen.XPath.N.expr (cstX e))) []) := by
  have h := runs_x e 0 hok [] (Cont.nil 0) fun _ => RootSafe.nil
  rw [List.append_nil] at h
  exact Runs.nt_of parse_prod (runs_expr h)

open XmlRs.XLex in
private theorem abs_of_tree (e : CX) (hok : e.ok = true) :
    absNode ((CST.node Gen.XPath.N.parse (.node Gen.XPath.N.expr (cstX e))).size + 2) Gen.XPath.N.parse (.node Gen.XPath.N.expr (cstX e)) = e.erase := by
  have h := abs_x e 0 hok (cstX e).size (Nat.le_refl _)
  have e1 : (CST.node Gen.XPath.N.parse (.node Gen.XPath.N.expr (cstX e))).size + 2 = (cstX e).size + 2 + 2 := by simp [CST.size]
  rw [e1]
  generalize (cstX e).size = n at h ⊢
  rw [absNode_delegate (.inr (.inr (.inr rfl))), cstX_eq e, absNode_delegate (.inl rfl), h]

open XmlRs.XLex in
private theorem parse_of_run (e : CX) (hok : e.ok = true) (hdepth : Gen.XPath.maxDepth_expr = 0 ∨ e.nest + 1 ≤ Gen.XPath.maxDepth_expr)
    {f : Nat} (h : run Gen.XPath.env f (.nt Gen.XPath.N.parse) e.str = .ok (.node Gen.XPath.N.parse (.node Gen.XPath.N.expr (cstX e))) []) :
    parseExprFuel f e.str = .ok e.erase := by
  have hd : (Gen.XPath.maxDepth_expr != 0 && decide (exprDepth (CST.node Gen.XPath.N.parse (.node Gen.XPath.N.expr (cstX e))) > Gen.XPath.maxDepth_expr)) = false := by
    rw [depth_node_other (by decide), depth_node_expr, depth_x]
    rcases hdepth with h0 | h1
    · simp [h0]
    · simp [Nat.not_lt.mpr h1]
  simp only [parseExprFuel, h, hd, Bool.false_eq_true, if_false, List.isEmpty_nil, if_true, abs_of_tree e hok]

/-- EVERY SPELLING IS PARSED TO THE EXPRESSION IT DENOTES.  `e` ranges over concrete expressions: an abstract expression
    together with every surface choice (white space around operators, parentheses, brackets, commas and `::`; quote
    characters; `@`/`attribute::`, omitted/`child::`, `.`/`..`/`//` or their expansions; which grammar layers are passed
    through); `e.ok` says the choices are lexically admissible (e.g. white space between a name and `div`), `e.nest` is
    the nesting of parentheses, predicates and arguments, limited by `MAX_EXPR_DEPTH` (0 = no limit).  For every fuel
    from some point on, the parser generated from the source returns exactly `e.erase`. -/
theorem spelling_parses (e : CX) (hok : e.ok = true) (hdepth : Gen.XPath.maxDepth_expr = 0 ∨ e.nest + 1 ≤ Gen.XPath.maxDepth_expr) :
    ∃ f0, ∀ f, f0 ≤ f → parseExprFuel f e.str = .ok e.erase := by
  obtain ⟨f0, h⟩ := spelling_runs e hok
  exact ⟨f0, fun f hf => parse_of_run e hok hdepth (h f hf)⟩

/-- the same at the fuel the model's `parseExpr` runs with: the answer is the expression, unless the fuel formula of
    the model were too small (an artefact of the model, never observed by the tie) -/
theorem spelling_parses_at_model_fuel (e : CX) (hok : e.ok = true) (hdepth : Gen.XPath.maxDepth_expr = 0 ∨ e.nest + 1 ≤ Gen.XPath.maxDepth_expr) :
    parseExpr e.str = .ok e.erase ∨ parseExpr e.str = .error .fuel := by
  rcases (spelling_runs e hok).at_fuel (xpathFuel e.str) with h | h
  · exact .inl (parse_of_run e hok hdepth h)
  · exact .inr (by simp only [parseExpr, parseExprFuel, h])

theorem equivalent_spellings_parse_alike (e1 e2 : CX) (h1 : e1.ok = true) (h2 : e2.ok = true) (he : e1.erase = e2.erase)
    (hd1 : Gen.XPath.maxDepth_expr = 0 ∨ e1.nest + 1 ≤ Gen.XPath.maxDepth_expr) (hd2 : Gen.XPath.maxDepth_expr = 0 ∨ e2.nest + 1 ≤ Gen.XPath.maxDepth_expr) :
    ∃ f0, ∀ f, f0 ≤ f → parseExprFuel f e1.str = parseExprFuel f e2.str := by
  obtain ⟨f1, hf1⟩ := spelling_parses e1 h1 hd1
  obtain ⟨f2, hf2⟩ := spelling_parses e2 h2 hd2
  exact ⟨max f1 f2, fun f hf => by rw [hf1 f (by omega), hf2 f (by omega), he]⟩

/-- EQUIVALENT SPELLINGS EVALUATE IDENTICALLY: over any document and context, the two queries give the same value or
    the same error (unless the model's fuel formula gave out on one of them) -/
theorem equivalent_spellings_evaluate_identically (env : XPath.Env) (e1 e2 : CX) (h1 : e1.ok = true) (h2 : e2.ok = true) (he : e1.erase = e2.erase)
    (hd1 : Gen.XPath.maxDepth_expr = 0 ∨ e1.nest + 1 ≤ Gen.XPath.maxDepth_expr) (hd2 : Gen.XPath.maxDepth_expr = 0 ∨ e2.nest + 1 ≤ Gen.XPath.maxDepth_expr) :
    query env e1.str = query env e2.str ∨ query env e1.str = .error .fuel ∨ query env e2.str = .error .fuel := by
  rcases spelling_parses_at_model_fuel e1 h1 hd1 with p1 | p1
  · rcases spelling_parses_at_model_fuel e2 h2 hd2 with p2 | p2
    · left; simp only [query, p1, p2, he]
    · right; right; simp only [query, p2]
  · right; left; simp only [query, p1]

/-- the abbreviations denote their expansions: `.` is `self::node()`, `..` is `parent::node()`, `@n` is `attribute::n`,
    an omitted axis is `child::`, and `a//b` is `a/descendant-or-self::node()/b` -/
theorem abbreviations_denote_their_expansions (w1 w2 w3 w4 : Str) (t : CTest) (p : CPreds) (s : CStep) (r : CRelTail) :
    CStep.dot.erase = (CStep.full (.named .self w1) w2 (.typeTest .node w3 w4) .nil).erase ∧
    CStep.dotdot.erase = (CStep.full (.named .parent w1) w2 (.typeTest .node w3 w4) .nil).erase ∧
    (CStep.full .attr w2 t p).erase = (CStep.full (.named .attribute w1) w2 t p).erase ∧
    (CStep.full .omitted [] t p).erase = (CStep.full (.named .child w1) w2 t p).erase ∧
    (CRelTail.cons w1 true w2 s r).erase =
      (CRelTail.cons w1 false w2 (.full (.named .descendantOrSelf w3) w4 (.typeTest .node w3 w4) .nil) (.cons w1 false w2 s r)).erase := by
  simp [CStep.erase, CAxis.erase, CTest.erase, CPreds.erase, CRelTail.erase, dosStep]

/-! ### the hypotheses are satisfiable: two spellings of one expression, abbreviated and spelled out -/
/-- pass a path expression up through the operator layers -/
def up8 (p : CX) : CX :=
  .chain 0 (.chain 1 (.chain 2 (.chain 3 (.chain 4 (.chain 5 (.unary [] (.union p .nil)) .nil) .nil) .nil) .nil) .nil) .nil
def exOne : CX := up8 (.pathF (.filter (.num ['1']) .nil))
def exNameA : CTest := .name ⟨none, ['a']⟩
def exNameB : CTest := .name ⟨none, ['b']⟩
/-- `a//b[1]` -/
def exAbbrev : CX := up8 (.pathRel (.mk (.full .omitted [] exNameA .nil) (.cons [] true [] (.full .omitted [] exNameB (.cons [] [] exOne [] .nil)) .nil)))
/-- `child::a/descendant-or-self::node()/child :: b [ 1 ]` -/
def exFull : CX := up8 (.pathRel (.mk (.full (.named .child []) [] exNameA .nil)
  (.cons [] false [] (.full (.named .descendantOrSelf []) [] (.typeTest .node [] []) .nil)
    (.cons [] false [] (.full (.named .child [' ']) [' '] exNameB (.cons [' '] [' '] exOne [' '] .nil)) .nil))))

example : exAbbrev.str = ['a', '/', '/', 'b', '[', '1', ']'] := by decide +kernel
example : exFull.str = "child::a/descendant-or-self::node()/child :: b [ 1 ]".toList := by simp only [String.reduceToList]; decide +kernel
example : exAbbrev.ok = true ∧ exFull.ok = true ∧ exAbbrev.str ≠ exFull.str ∧
    exAbbrev.nest + 1 ≤ Gen.XPath.maxDepth_expr ∧ exFull.nest + 1 ≤ Gen.XPath.maxDepth_expr := by decide +kernel
example : exAbbrev.erase = exFull.erase := by rfl

/-- operators: `1 - -1 div 1 or $v` with and without the optional white space -/
def exVar : CX := .unary [] (.union (.pathF (.filter (.var ⟨none, ['v']⟩) .nil)) .nil)
def exNum5 : CX := .chain 5 (.unary [] (.union (.pathF (.filter (.num ['1']) .nil)) .nil)) .nil
def exNeg : CX := .unary [[]] (.union (.pathF (.filter (.num ['1']) .nil)) .nil)
def exOps (w : Str) : CX :=
  .chain 0 (.chain 1 (.chain 2 (.chain 3 (.chain 4 exNum5 (.cons [' '] .sub w (.chain 5 exNeg (.cons [' '] .div w (.unary [] (.union (.pathF (.filter (.num ['1']) .nil)) .nil)) .nil)) .nil)) .nil) .nil) .nil)
    (.cons [' '] .or w (.chain 1 (.chain 2 (.chain 3 (.chain 4 (.chain 5 exVar .nil) .nil) .nil) .nil) .nil) .nil)
example : (exOps []).str = "1 --1 div1 or$v".toList ∧ (exOps [' ']).str = "1 - -1 div 1 or $v".toList := by simp only [String.reduceToList]; decide +kernel
example : (exOps []).ok = true ∧ (exOps [' ']).ok = true := by decide +kernel
example : (exOps []).erase = (exOps [' ']).erase := by rfl

end XmlRs.C08
