import XmlRsModel.XmlDoc
import XmlRsModel.Thm.C02
import XmlRsModel.Lemmas.AbsDoc
import XmlRsModel.Gen.Predefined
/-! Property C01: well-formed documents are accepted and yield the infoset they denote.
    A concrete document `CDoc` is an abstract document together with every surface-syntax choice a rendering can make
    (white space inside tags and around `=`, either quote,
    empty-element tag or start/end pair, the layout of the XML declaration and of every declaration of the internal subset,
    Misc items and white space around the root).  Every one that meets the lexical side conditions of the productions
    (`CDoc.ok`, decidable), nests within the parser's limits and declares its references (`checkDoc`) is parsed by the
    grammar translated from the current source, completely, to exactly the abstract document it renders (`CDoc.erase`).
    The proof is a completeness proof of the PEG (`Lemmas/Runs*.lean`: ordered choice and greedy repetition never take a
    wrong turn on a rendering) followed by `abs (tree) = erase` (`Lemmas/Abs*.lean`).  Outside the theorem: parameter
    entities (the library reports them as unsupported) and the entity-usage constraints recorded as finding `entity-wfc`. -/
namespace XmlRs.C01
open XmlRs Gen.Xml

theorem parseNat_append_digit (base : Nat) (s : Str) (c : Char) :
    parseNat base (s ++ [c]) = parseNat base s * base + digitVal c := by
  simp [parseNat, List.foldl_append]

/-- `4294967296`: the number must fit `u32`; `Gen.isChar` is the extracted table of production [2], proved equal to the
    Recommendation in C18 -/
theorem charOfNat_spec (n : Nat) (c : Char) :
    charOfNat n = some c ↔ (n < 4294967296 ∧ Gen.isChar n = true ∧ c.toNat = n) := by
  unfold charOfNat
  constructor
  · intro h
    split at h
    · next hv =>
      split at h
      · next hc =>
        simp only [Bool.and_eq_true, decide_eq_true_eq] at hc
        simp only [Option.some.injEq] at h
        subst h
        exact ⟨hc.1, hc.2, rfl⟩
      · cases h
    · cases h
  · rintro ⟨h1, h2, h3⟩
    have hv : n.isValidChar := by rw [← h3]; exact c.valid
    rw [dif_pos hv, if_pos (by simp [h1, h2])]
    congr 1
    apply Char.ext
    subst h3
    rfl

theorem charOfRef_spec (digits : Str) (hex : Bool) :
    charOfRef digits hex = charOfNat (parseNat (if hex then 16 else 10) digits) := rfl

/-- holds because `parseDoc` is a Lean function: the content is that the model has no hidden state, and the tie shows
    the code behaves like it; see C19 -/
theorem parse_deterministic (s : Str) (r1 r2 : Except XErr (IDoc × Str))
    (h1 : parseDoc s = r1) (h2 : parseDoc s = r2) : r1 = r2 := h1 ▸ h2

/-- the items of an accepted document are the abstraction of ONE derivation tree whose leaves
    spell the consumed text: nothing reported can come from outside the input -/
theorem items_come_from_the_text_partial (s : Str) (d : IDoc) (rest : Str)
    (h : parseDoc s = .ok (d, rest)) :
    ∃ c, Derives env (.nt N.document) (.node N.document c) ∧ c.flatten ++ rest = s ∧
      absDocument c = .ok d := by
  obtain ⟨c, h1, h2, h3, _⟩ := C02.accepted_is_derivable env false s d rest h
  exact ⟨c, h1, h2, h3⟩

open Lex in
/-- EVERY rendering is parsed to the document it renders: for every concrete document whose pieces meet the lexical side
    conditions (`CDoc.ok`), whose nesting stays within the parser's limits and whose references are declared (`checkDoc`),
    the parser - run with any sufficient amount of fuel - consumes the whole text and returns exactly the abstract
    document, whatever white space, quotes and tag forms were chosen -/
theorem rendering_parses (d : CDoc) (hok : d.ok = true) (hdepth : d.root.depth ≤ maxDepth_element)
    (hgroups : doctypeDepth d.doctype ≤ maxDepth_children) (hchk : checkDoc d.erase = .ok ()) :
    ∃ f0, ∀ f, f0 ≤ f → parseDocFuel env false f d.str = .ok (d.erase, []) := by
  obtain ⟨f0, hrun⟩ := runs_document d hok
  refine ⟨f0, fun f hf => ?_⟩
  have hd := docBody_depth d
  have h1 : ¬ ((docBody d).elemDepth > maxDepth_element) := by omega
  have h2 : ¬ ((docBody d).ntDepth N.children > maxDepth_children) := by rw [hd.2]; omega
  simp only [parseDocFuel, hrun f hf, cstDoc_eq, absDocument_cst d hok, hchk, h1, h2, decide_false, Bool.and_false,
    Bool.false_and, Bool.false_eq_true, if_false]

/-- an answer that every sufficient amount of fuel gives is the answer at the fuel the model's `parseDoc` uses, unless the fuel
    formula of the model were too small (an artefact of the model, never observed by the tie; see C03 `parse_answer_stable`) -/
theorem at_model_fuel {s : Str} {r : Except XErr (IDoc × Str)} (h : ∃ f0, ∀ f, f0 ≤ f → parseDocFuel env false f s = r) :
    parseDoc s = r ∨ parseDoc s = .error .fuel := by
  obtain ⟨f0, h⟩ := h
  cases hr : run env (xmlFuel s) (.nt N.document) s with
  | fuel => exact .inr (by simp only [parseDoc, parseDocWith, hr])
  | _ =>
    have := run_mono_le env (Nat.le_max_left (xmlFuel s) f0) hr (by simp)
    rw [← h _ (Nat.le_max_right (xmlFuel s) f0)]
    exact .inl (by simp only [parseDoc, parseDocWith_eq, parseDocFuel, hr, this])

theorem rendering_parses_at_model_fuel (d : CDoc) (hok : d.ok = true) (hdepth : d.root.depth ≤ maxDepth_element)
    (hgroups : doctypeDepth d.doctype ≤ maxDepth_children) (hchk : checkDoc d.erase = .ok ()) :
    parseDoc d.str = .ok (d.erase, []) ∨ parseDoc d.str = .error .fuel :=
  at_model_fuel (rendering_parses d hok hdepth hgroups hchk)

/-- surface-syntax choices never change the result: two renderings of the same abstract document parse to the same
    document -/
theorem surface_syntax_is_irrelevant (d1 d2 : CDoc) (h1 : d1.ok = true) (h2 : d2.ok = true) (he : d1.erase = d2.erase)
    (hd1 : d1.root.depth ≤ maxDepth_element) (hd2 : d2.root.depth ≤ maxDepth_element)
    (hg1 : doctypeDepth d1.doctype ≤ maxDepth_children) (hg2 : doctypeDepth d2.doctype ≤ maxDepth_children) (hchk : checkDoc d1.erase = .ok ()) :
    ∃ f0, ∀ f, f0 ≤ f → parseDocFuel env false f d1.str = parseDocFuel env false f d2.str := by
  obtain ⟨f1, hf1⟩ := rendering_parses d1 h1 hd1 hg1 hchk
  obtain ⟨f2, hf2⟩ := rendering_parses d2 h2 hd2 hg2 (he ▸ hchk)
  exact ⟨max f1 f2, fun f hf => by rw [hf1 f (by omega), hf2 f (by omega), he]⟩

def exAttr1 : CAttr := ⟨[' '], ⟨some ['x', 'm', 'l', 'n', 's'], ['p']⟩, [], [' '], '"', [.text ['u']]⟩
def exAttr2 : CAttr := ⟨['\n', ' '], ⟨some ['p'], ['k']⟩, [' '], [], '\'', [.text ['v', '"'], .entRef ['a','m','p'], .charRef ['6','5'] false]⟩
def exAttr3 : CAttr := ⟨[' '], ⟨none, ['x', 'm', 'l', 'n', 's', 'f', 'o', 'o']⟩, [], [], '"', [.text ['1']]⟩
def exDoctype : CDoctype := ⟨[' '], ⟨none, ['a']⟩, some ([' '], .pubId [' '] '"' ['-', '/', '/', 'X'] ['\n'] '\'' ['u', '.', 'd', 't', 'd']), [' '],
  some ([.ws ['\n'],
         .elementDecl [' '] ⟨none, ['a']⟩ [' '] (.children [] (.name ⟨none, ['b']⟩ .opt) false
            (.cons [] [' '] (.group [' '] (.name ⟨none, ['c']⟩ .one) true (.cons [' '] [' '] (.name ⟨some ['p'], ['d']⟩ .star) .nil) [] .plus) .nil) [' '] .star) [],
         .elementDecl [' '] ⟨none, ['c']⟩ [' '] (.mixedStar [] [([' '], [' '], ⟨none, ['b']⟩)] [' ']) [' '],
         .elementDecl [' '] ⟨none, ['b']⟩ ['\t'] .empty [],
         .attlist [' '] ⟨none, ['a']⟩ [⟨[' '], ⟨some ['p'], ['k']⟩, [' '], .kw .cdata, [' '], .implied⟩,
            ⟨['\n', ' '], ⟨none, ['t']⟩, [' '], .enumeration [] ['x'] [([' '], [], ['y'])] [], [' '], .value (some [' ']) '"' [.text ['x']]⟩,
            ⟨[' '], ⟨none, ['n']⟩, [' '], .notationTy [' '] [] ['g'] [] [' '], [' '], .required⟩] [' '],
         .entity [' '] ['e'] [' '] (.internal '\'' [.text ['v', '"'], .charRef ['6', '5'] false, .peRef ['q'], .entRef ['l', 't']]) [],
         .entity [' '] ['u'] [' '] (.external (.sysId [' '] '"' ['f']) (some ([' '], [' '], ['g']))) [' '],
         .notationDecl [' '] ['g'] [' '] (.pubOnly [' '] '\'' ['i', 'd']) [' '],
         .pi ['t'] [], .comment ['c']], [' '])⟩
/-- the hypotheses are satisfiable by a document that uses every construct of the profile: an XML declaration with
    encoding and standalone, PI and white space in the prolog, a DOCTYPE with public identifier and an internal subset
    (`exDoctype`: element, attribute-list, entity and notation declarations, PI, comment), `xmlns:p`, a prefixed attribute
    in single quotes holding a double quote and references, an attribute whose name merely starts with `xmlns`, white space
    inside tags, an empty-element tag, text, a reference, a CDATA section ending in `]`, a comment with a single dash,
    nested elements, a PI without data, a comment in the epilogue -/
def exDoc : CDoc := ⟨some ⟨[' ', '\n'], [' '], [], '\'', ['0'], some ([' '], [], [' '], '"', ['U', 'T', 'F', '-', '8']), some (['\t'], [], [], '\'', false), [' ']⟩,
  [.ws ['\n'], .pi ['x', 'm', 'l', '-', 's'] [' ', 'x'], .ws [' ']],
  .elem ⟨none, ['a']⟩ [exAttr1, exAttr2, exAttr3] [' '] false
    [.elem ⟨none, ['b']⟩ [] [] true [] [], .text ['t'], .entRef ['l','t'], .cdata ['c', ']'], .comment ['c', '-', 'd'],
     .elem ⟨none, ['c']⟩ [] [' '] false [.text ['z']] [' '], .pi ['q'] []] ['\t'],
  [.ws ['\n'], .comment ['e']],
  some (exDoctype, [.ws ['\n']])⟩
example : exDoc.ok = true ∧ exDoc.root.depth ≤ maxDepth_element ∧ doctypeDepth exDoc.doctype ≤ maxDepth_children := by decide +kernel
example : checkDoc exDoc.erase = .ok () := by rfl

example : charOfRef ['6', '5'] false = some 'A' ∧ charOfRef ['4', '1'] true = some 'A' ∧
    charOfRef ['0'] false = none ∧ charOfRef ['D', '8', '0', '0'] true = none := by decide +kernel

/-- the predefined entities of the model - names and replacement texts, in the order they are tried - ARE the ones the source
    answers with when no declaration of that name exists (`Gen/Predefined.lean` is regenerated from info/src/lib.rs
    `Context::entity` on every run) -/
theorem predefined_is_the_sources :
    predefined.map (fun p => (p.1, match p.2 with | .internal [.text t] => t | _ => [])) = Gen.Predefined.table := rfl

end XmlRs.C01
