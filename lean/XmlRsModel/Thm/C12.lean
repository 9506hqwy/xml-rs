import XmlRsModel.Dom
import XmlRsModel.Thm.C13
import XmlRsModel.Lemmas.DomStep
import XmlRsModel.Lemmas.DomInit
import XmlRsModel.Lemmas.DomNav
import XmlRsModel.Lemmas.DomDoc
import XmlRsModel.Thm.C02
import XmlRsModel.Lemmas.AbsDepth
/-! Property C12: the DOM stays a tree — navigation views agree after any edit history.

    The model keeps a forest (the document tree and the detached trees); `parent`, `find`, child lists
    are read off that forest.  What has to be PROVED is the invariant that makes those readings
    agree: after ANY sequence of operations, successful or refused, starting from ANY parsed
    document, no node id occurs twice in the forest and every id in use was allocated (`Inv`).  From it: the node whose child
    list holds `c` is the parent reported for `c` and conversely, a root has no parent, no node lies
    beneath itself, moving never loses or duplicates a node.  The real code keeps the redundancy
    (child vectors, parent ids, an id map); the check evaluates the navigation views of the real
    nodes after every step (monitor) and compares the tree with the model's (tie). -/
namespace XmlRs.C12
open XmlRs XmlRs.Dom List Gen.Xml

/-- a history: the operations are applied one after the other, whatever each one answers -/
def run (s : St) (ops : List Op) : St := ops.foldl (fun s op => (step s op).1) s

theorem inv_step (s : St) (op : Op) (h : Inv s) : Inv (step s op).1 := h.of_grow (step_grow s op h)

/-- the same for a call given with its outcome -/
theorem inv_after {s s' : St} {op : Op} {r : Dom.Res} (hi : Inv s) (h : step s op = (s', r)) : Inv s' := by
  have := inv_step s op hi
  rwa [h] at this

/-- what every step keeps holds after any history -/
theorem run_invariant {P : St → Prop} (hstep : ∀ s op, P s → P (step s op).1) (s : St) (ops : List Op) (h : P s) :
    P (run s ops) := by
  induction ops generalizing s with
  | nil => exact h
  | cons op r ih => exact ih _ (hstep s op h)

theorem inv_run (s : St) (ops : List Op) (h : Inv s) : Inv (run s ops) := run_invariant inv_step s ops h

/-- what every step keeps on states that satisfy `Inv` holds after any history that starts in such a state -/
theorem run_invariant_under_inv {P : St → Prop} (hstep : ∀ s op, Dom.Inv s → P s → P (step s op).1) (s : St) (ops : List Op)
    (hi : Inv s) (hp : P s) : P (run s ops) :=
  (run_invariant (P := fun s => Inv s ∧ P s) (fun s op h => ⟨inv_step s op h.1, hstep s op h.1 h.2⟩) s ops ⟨hi, hp⟩).2

/-- for every parsed document and every history of DOM operations: no node occurs twice — neither
    in one tree, nor in two trees, nor as child and attribute — and every id in use was allocated -/
theorem no_node_twice (d : IDoc) (ops : List Op) :
    (idsOfL (run (buildSt d) ops).roots).Nodup ∧
    ∀ i ∈ idsOfL (run (buildSt d) ops).roots, i < (run (buildSt d) ops).next := by
  have h := inv_run (buildSt d) ops (buildSt_inv d)
  refine ⟨nodup_iff_count.mpr h.1, fun i hi => h.2 i ?_⟩
  exact (mem_idsL_iff i _).mp hi

/-- the node in whose child list `c` stands is what `parent` reports for `c` -/
theorem child_reports_parent (s : St) (h : Inv s) (p c : Nat) (pn : Node) (hf : s.find p = some pn)
    (hk : pn.kids.any (·.id == c) = true) : s.parent c = some p :=
  parentInL_of_kid p c s.roots pn h.1 hf hk

/-- what `parent` reports for `c` is a live node whose child list holds `c` -/
theorem parent_lists_child (s : St) (h : Inv s) (p c : Nat) (hp : s.parent c = some p) :
    ∃ pn, s.find p = some pn ∧ pn.kids.any (·.id == c) = true :=
  kid_of_parentInL p c s.roots h.1 hp

/-- the two views agree in every reachable state -/
theorem views_agree_after_any_history (d : IDoc) (ops : List Op) (p c : Nat) :
    (run (buildSt d) ops).parent c = some p ↔
    ∃ pn, (run (buildSt d) ops).find p = some pn ∧ pn.kids.any (·.id == c) = true := by
  have h := inv_run (buildSt d) ops (buildSt_inv d)
  exact ⟨parent_lists_child _ h p c, fun ⟨pn, hf, hk⟩ => child_reports_parent _ h p c pn hf hk⟩

/-- a removed node (a root of a detached tree) and the document node have no parent -/
theorem root_has_no_parent (s : St) (h : Inv s) (r : Node) (hr : r ∈ s.roots) : s.parent r.id = none :=
  root_no_parent s.roots h.1 r hr

/-- what `removeChild` hands back is afterwards a detached root, hence without parent -/
theorem removed_node_has_no_parent (s : St) (h : Inv s) (p c : Nat) (hok : (removeChild s p c).2 = .node c) :
    (removeChild s p c).1.parent c = none := by
  have hi' : Inv (removeChild s p c).1 := h.of_sameIds (removeChild_sameIds h rfl)
  rcases removeChild_cases s p c with ⟨e, hs⟩ | ⟨_, s1, x, _, _, _, hd, heq⟩
  · rw [hs] at hok; cases hok
  · have hid := (detach_some h.1 hd).2.1
    have hx : x ∈ (removeChild s p c).1.roots := by rw [heq]; simp [St.roots]
    have := root_has_no_parent _ hi' x hx
    rw [hid] at this; exact this

/-- no node lies beneath itself -/
theorem no_node_beneath_itself (s : St) (h : Inv s) (p : Nat) (pn : Node) (hf : s.find p = some pn) :
    p ∉ idsOfL pn.attrs ∧ p ∉ idsOfL pn.kids := by
  have := not_below_itself s.roots h.1 p pn hf
  unfold below at this
  constructor
  · intro hm; have := (mem_idsL_iff p _).mp hm; omega
  · intro hm; have := (mem_idsL_iff p _).mp hm; omega

/-- MOVES: a successful or refused `insertBefore` / `appendChild` / `removeChild` / `replaceChild`
    leaves exactly the nodes that were there — none lost, none duplicated, none invented -/
theorem insert_preserves_nodes (s : St) (h : Inv s) (p c : Nat) (ref : Option Nat) :
    (idsOfL (insertChild s p c ref).1.roots).Perm (idsOfL s.roots) :=
  perm_iff_count.mpr (insertChild_sameIds h rfl).2

theorem remove_preserves_nodes (s : St) (h : Inv s) (p c : Nat) :
    (idsOfL (removeChild s p c).1.roots).Perm (idsOfL s.roots) :=
  perm_iff_count.mpr (removeChild_sameIds h rfl).2

theorem replace_preserves_nodes (s : St) (h : Inv s) (p new old : Nat) :
    (idsOfL (step s (.replaceChild p new old)).1.roots).Perm (idsOfL s.roots) :=
  perm_iff_count.mpr (replaceChild_sameIds s p new old h).2

/-! ### at most one document element and one document type -/

/-- for every document with at most one document element and one document type (what the parser
    delivers) and every history of DOM operations, successful or refused: the document node still has
    at most one element child and at most one document type child -/
theorem one_element_one_doctype (d : IDoc) (hd : OneRoot d) (ops : List Op) :
    cntK isElemK (run (buildSt d) ops).doc.kids ≤ 1 ∧ cntK isDoctypeK (run (buildSt d) ops).doc.kids ≤ 1 :=
  (run_invariant_under_inv step_docInv (buildSt d) ops (buildSt_inv d) (buildSt_docInv d hd)).2

theorem countP_of_all_false {α : Type} {P : α → Bool} {l : List α} (h : ∀ t ∈ l, P t = false) : l.countP P = 0 :=
  countP_eq_zero.mpr fun t ht => by rw [h t ht]; exact Bool.false_ne_true

/-- the hypothesis is met: what `absDocument` builds has at most one element at top level (prolog and
    trailing Misc contribute comments, processing instructions and document types only) -/
theorem parsed_has_at_most_one_element (c : CST) (d : IDoc) (h : absDocument c = .ok d) :
    d.kids.countP isElemTop ≤ 1 := by
  unfold absDocument at h
  simp only at h
  split at h
  · cases h
  · next heads hh =>
    simp only [Except.ok.injEq] at h
    subst h
    rw [countP_append, countP_append, countP_of_all_false (absProlog_not_elem _ heads hh),
      countP_of_all_false fun t ht => (filterMap_absMisc_not_elem _ t ht).1]
    split <;> simp [List.countP_cons, isElemTop]

def dtCount (l : List (Nat × CST)) : Nat := l.countP (fun p => p.1 == N.doctype_decl)

theorem dtCount_append (a b : List (Nat × CST)) : dtCount (a ++ b) = dtCount a + dtCount b := by
  simp [dtCount, List.countP_append]

/-- a run of `misc` nodes has no document type among its outermost nodes -/
theorem derivesAll_misc_dt (ks : List CST) (h : DerivesAll env (.nt N.misc) ks) : dtCount (kidsLL ks) = 0 := by
  induction ks with
  | nil => simp [kidsLL, dtCount]
  | cons c cs ih =>
    cases h with
    | cons _ _ _ hc hcs =>
      cases hc with
      | nt n b hb =>
        simp only [kidsLL, CST.kidsL, dtCount_append, ih hcs]
        simp [dtCount]; decide

/-! ### reading a derivation off a production -/
theorem derives_seq2 {ev : Env} {g1 g2 : G} {c : CST} (h : Derives ev (.seq [g1, g2]) c) :
    ∃ a b, c = .seq [a, b] ∧ Derives ev g1 a ∧ Derives ev g2 b := by
  cases h with
  | seq _ _ hs =>
    cases hs with
    | cons _ _ a _ ha hs =>
      cases hs with
      | cons _ _ b _ hb hs => cases hs; exact ⟨a, b, rfl, ha, hb⟩

theorem derives_seq3 {ev : Env} {g1 g2 g3 : G} {c : CST} (h : Derives ev (.seq [g1, g2, g3]) c) :
    ∃ a b d, c = .seq [a, b, d] ∧ Derives ev g1 a ∧ Derives ev g2 b ∧ Derives ev g3 d := by
  cases h with
  | seq _ _ hs =>
    cases hs with
    | cons _ _ a _ ha hs =>
      obtain ⟨b, d, e, hb, hd⟩ := derives_seq2 (.seq _ _ hs)
      cases e
      exact ⟨a, b, d, rfl, ha, hb, hd⟩

/-- an optional part, as the translator writes it -/
theorem derives_opt {ev : Env} {g : G} {c : CST} (h : Derives ev (.alt [g, .seq []]) c) : Derives ev g c ∨ c = .seq [] := by
  cases h with
  | alt _ g' _ hg hd =>
    simp only [List.mem_cons, List.not_mem_nil, or_false] at hg
    rcases hg with rfl | rfl
    · exact .inl hd
    · cases hd with
      | seq _ _ hs => cases hs; exact .inr rfl

theorem derives_many {ev : Env} {g : G} {c : CST} (h : Derives ev (.many0 g) c) : ∃ ks, c = .many ks ∧ DerivesAll ev g ks := by
  cases h with
  | many _ ks hall => exact ⟨ks, rfl, hall⟩

theorem derives_nt {ev : Env} {n : Nat} {c : CST} (h : Derives ev (.nt n) c) : ∃ b, c = .node n b ∧ Derives ev (ev n) b := by
  cases h with
  | nt _ b hb => exact ⟨b, rfl, hb⟩

/-- production [22] prolog as translated: at most one document type declaration -/
theorem prolog_one_doctype (p : CST) (h : Derives env (env N.prolog) p) : dtCount p.kidsL ≤ 1 := by
  rw [env_prolog, Prod.prolog] at h
  obtain ⟨a, m, d, rfl, ha, hm, hd⟩ := derives_seq3 h
  obtain ⟨ms, rfl, hms⟩ := derives_many hm
  have h1 : dtCount a.kidsL = 0 := by
    rcases derives_opt ha with ha | rfl
    · obtain ⟨b, rfl, _⟩ := derives_nt ha
      simp [CST.kidsL, dtCount]; decide
    · rfl
  have h2 := derivesAll_misc_dt ms hms
  have h3 : dtCount d.kidsL ≤ 1 := by
    rcases derives_opt hd with hd | rfl
    · obtain ⟨x, y, rfl, hx, hy⟩ := derives_seq2 hd
      obtain ⟨b, rfl, _⟩ := derives_nt hx
      obtain ⟨ks, rfl, hks⟩ := derives_many hy
      simp only [CST.kidsL, kidsLL, dtCount_append, List.append_nil, derivesAll_misc_dt ks hks]
      simp [dtCount]
    · exact Nat.zero_le _
  simp only [CST.kidsL, kidsLL, dtCount_append, List.append_nil]
  omega

theorem absProlog_doctypes : ∀ (l : List (Nat × CST)) (xs : List TopItem), absProlog l = .ok xs →
    xs.countP isDoctypeTop ≤ dtCount l
  | [], xs, h => by cases h; exact Nat.le_refl _
  | (n, b) :: r, xs, h => by
    obtain ⟨ys, hr, hc⟩ := absProlog_cons h
    have ih := absProlog_doctypes r ys hr
    rw [dtCount, countP_cons, ← dtCount]
    rcases hc with ⟨_, rfl⟩ | ⟨hd, d, rfl⟩ | ⟨hd, rfl⟩
    · rw [countP_append, countP_of_all_false fun t ht => (absMisc_not_elem (Option.mem_toList.mp ht)).2]
      omega
    · rw [countP_cons, if_pos hd]; exact Nat.add_le_add_right ih 1
    · exact Nat.le_trans ih (Nat.le_add_right _ _)
/-- what the parser delivers has at most one document element and at most one document type: the
    hypothesis `OneRoot` of `one_element_one_doctype` holds for every parsed document -/
theorem parsed_is_oneRoot (s : Str) (d : IDoc) (rest : Str) (h : parseDoc s = .ok (d, rest)) : OneRoot d := by
  obtain ⟨c, hder, _, habs, _⟩ := C02.accepted_is_derivable env false s d rest h
  refine ⟨parsed_has_at_most_one_element c d habs, ?_⟩
  -- the document body: prolog, element, Misc*
  obtain ⟨_, ⟨⟩, hbody⟩ := derives_nt hder
  rw [env_document, Prod.document] at hbody
  obtain ⟨a, e, m, rfl, ha, he, hm⟩ := derives_seq3 hbody
  obtain ⟨p, rfl, hp⟩ := derives_nt ha
  obtain ⟨eb, rfl, _⟩ := derives_nt he
  obtain ⟨ms, rfl, _⟩ := derives_many hm
  have hp1 := prolog_one_doctype p hp
  unfold absDocument at habs
  have hf : findL N.prolog (CST.seq [CST.node N.prolog p, CST.node N.element eb, CST.many ms]).kidsL = some p := by
    simp [CST.kidsL, kidsLL, findL]
  simp only [hf] at habs
  split at habs
  · cases habs
  · next heads hh =>
    simp only [Except.ok.injEq] at habs
    subst habs
    have h1 := absProlog_doctypes p.kidsL heads hh
    have h2 : ∀ (l : List CST), (l.filterMap absMisc).countP isDoctypeTop = 0 := fun l =>
      countP_of_all_false fun t ht => (filterMap_absMisc_not_elem l t ht).2
    simp only [List.countP_append, h2]
    split
    · simp only [List.countP_cons, List.countP_nil, isDoctypeTop, Bool.false_eq_true, if_false]; omega
    · simp only [List.countP_nil]; omega

/-- the C12 statement for documents as the parser delivers them: no hypothesis left -/
theorem one_element_one_doctype_parsed (s : Str) (d : IDoc) (rest : Str) (h : parseDoc s = .ok (d, rest)) (ops : List Op) :
    cntK isElemK (run (buildSt d) ops).doc.kids ≤ 1 ∧ cntK isDoctypeK (run (buildSt d) ops).doc.kids ≤ 1 :=
  one_element_one_doctype d (parsed_is_oneRoot s d rest h) ops

/-- a node cannot be made a child of itself or of one of its descendants: the call is refused -/
theorem insert_cycle_refused (s s' : St) (p c : Nat) (ref : Option Nat) (r : Dom.Res)
    (h : insertChild s p c ref = (s', r)) (hc : s.isAncestorOrSelf c p = true) : ∃ e, r = .err e := by
  rcases insertChild_cases s p c ref with ⟨e, he⟩ | ⟨_, _, _, _, hins, _⟩
  · rw [he] at h; exact ⟨e, (Prod.mk.inj h).2.symm⟩
  · rw [hins.noCycle] at hc; cases hc

/-- a refused insertion changes nothing (so the views cannot disagree afterwards) -/
theorem refused_insert_changes_nothing (s s' : St) (p c : Nat) (ref : Option Nat) (e : Exc)
    (h : insertChild s p c ref = (s', .err e)) : s' = s :=
  (insertChild_refused h (fun _ => nofun)).1

/-! ### identities over whole histories -/
/-- over any history the counter only goes up and only identities handed out on the way come into use -/
theorem run_grow (s : St) (ops : List Op) (h : Inv s) : Grow s (run s ops) := by
  induction ops generalizing s with
  | nil => exact Grow.refl s
  | cons op r ih => exact (step_grow s op h).trans (ih _ (inv_step s op h))

/-- IDENTITIES ARE NEVER RE-USED OR INVENTED, over any history: the allocation counter never goes back, and an
    identity below the counter occurs afterwards at most as often as it did before (0 stays 0: the id of a node that
    is in no tree any more never comes back by itself; 1 stays at most 1) -/
theorem identities_never_reused (s : St) (ops : List Op) (h : Inv s) (a : Nat) (ha : a < s.next) :
    s.next ≤ (run s ops).next ∧ cntL a (run s ops).roots ≤ cntL a s.roots := by
  have hg := run_grow s ops h
  have h3 := hg.2 a
  rw [if_neg (by omega)] at h3
  exact ⟨hg.1, h3⟩

/-- a node created during a history is different from every node that existed before it -/
theorem new_nodes_are_new (s : St) (ops : List Op) (h : Inv s) (a : Nat)
    (hnew : cntL a s.roots = 0) (hthere : 0 < cntL a (run s ops).roots) : s.next ≤ a := by
  by_cases ha : a < s.next
  · have := (identities_never_reused s ops h a ha).2; omega
  · omega

/-- histories compose: running `a ++ b` is running `b` from where `a` ended -/
theorem run_append (s : St) (a b : List Op) : run s (a ++ b) = run (run s a) b := by
  simp [run, List.foldl_append]

/-- a prefix of a history is a history: `inv_run` read at an intermediate point -/
theorem inv_at_every_prefix (d : IDoc) (ops : List Op) (k : Nat) : Inv (run (buildSt d) (ops.take k)) :=
  inv_run _ _ (buildSt_inv d)

end XmlRs.C12
