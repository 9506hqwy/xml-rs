import XmlRsModel.Chars
import XmlRsModel.Gen.CharTables
import XmlRsModel.Lemmas.Names
/-! Property C18, part 1: the five character classes of the running code (extracted exhaustively,
    `Gen.CharTables`) agree with productions [2] [4] [4a] [13] [81] for EVERY natural number, hence
    for every Unicode scalar value.  Re-proved on every run against the freshly extracted tables. -/
namespace XmlRs

theorem inRanges_of_mem {rs : List (Nat × Nat)} {r : Nat × Nat} {c : Nat} (hr : r ∈ rs) (h1 : r.1 ≤ c)
    (h2 : c ≤ r.2) : inRanges rs c = true := by
  induction rs with
  | nil => cases hr
  | cons q rs ih =>
    rw [inRanges, Bool.or_eq_true]
    rcases List.mem_cons.mp hr with rfl | hr
    · exact .inl (by simp [h1, h2])
    · exact .inr (ih hr)

theorem mem_of_inRanges {rs : List (Nat × Nat)} {c : Nat} (h : inRanges rs c = true) :
    ∃ r ∈ rs, r.1 ≤ c ∧ c ≤ r.2 := by
  induction rs with
  | nil => cases h
  | cons q rs ih =>
    rw [inRanges, Bool.or_eq_true, Bool.and_eq_true, decide_eq_true_eq, decide_eq_true_eq] at h
    rcases h with h | h
    · exact ⟨q, List.mem_cons_self, h⟩
    · obtain ⟨r, hr, h⟩ := ih h; exact ⟨r, List.mem_cons_of_mem _ hr, h⟩

theorem inRanges_append (rs ss : List (Nat × Nat)) (c : Nat) :
    inRanges (rs ++ ss) c = (inRanges rs c || inRanges ss c) := by
  induction rs with
  | nil => rfl
  | cons r rs ih => rw [List.cons_append, inRanges, inRanges, ih, Bool.or_assoc]

/-- Is every number of `lo..hi` in one of the ranges `rs`?  Walks upwards from `lo`: each step takes a range
    that holds the current point and goes on behind its end; `n` bounds the number of steps.  Only soundness is proved and needed
    (`covered_sound`); `n = rs.length` steps suffice on the tables at hand, as the evaluation shows. -/
def covered (rs : List (Nat × Nat)) : Nat → Nat → Nat → Bool
  | 0, _, _ => false
  | n+1, lo, hi => match rs.find? (fun r => r.1 ≤ lo && lo ≤ r.2) with
    | none => false
    | some r => hi ≤ r.2 || covered rs n (r.2 + 1) hi

theorem covered_sound {rs : List (Nat × Nat)} : ∀ {n lo hi}, covered rs n lo hi = true →
    ∀ c, lo ≤ c → c ≤ hi → inRanges rs c = true
  | 0, _, _, h, _, _, _ => by cases h
  | n+1, lo, hi, h, c, h1, h2 => by
    rw [covered] at h
    cases hf : rs.find? (fun r => r.1 ≤ lo && lo ≤ r.2) with
    | none => rw [hf] at h; cases h
    | some r =>
      rw [hf] at h
      have hr := List.find?_some hf
      simp only [Bool.and_eq_true, decide_eq_true_eq] at hr
      by_cases hc : c ≤ r.2
      · exact inRanges_of_mem (List.mem_of_find?_eq_some hf) (Nat.le_trans hr.1 h1) hc
      · simp only [Bool.or_eq_true, decide_eq_true_eq] at h
        exact covered_sound (h.resolve_left fun h' => hc (Nat.le_trans h2 h')) c (by omega) h2

def subRanges (rs ss : List (Nat × Nat)) : Bool := rs.all fun r => covered ss ss.length r.1 r.2

theorem inRanges_mono {rs ss : List (Nat × Nat)} (h : subRanges rs ss = true) {c : Nat}
    (hc : inRanges rs c = true) : inRanges ss c = true := by
  obtain ⟨r, hr, h1, h2⟩ := mem_of_inRanges hc
  exact covered_sound (List.all_eq_true.mp h r hr) c h1 h2

/-- the two hypotheses are closed terms for concrete tables, whatever their order and however their ranges are cut -/
theorem inRanges_congr {rs ss : List (Nat × Nat)} (h1 : subRanges rs ss = true)
    (h2 : subRanges ss rs = true) (c : Nat) : inRanges rs c = inRanges ss c :=
  Bool.eq_iff_iff.mpr ⟨inRanges_mono h1, inRanges_mono h2⟩

namespace C18

theorem isChar_spec : ∀ c : Nat, Gen.isChar c = Spec.isChar c :=
  inRanges_congr (by decide +kernel) (by decide +kernel)

theorem isNameStartChar_spec : ∀ c : Nat, Gen.isNameStartChar c = Spec.isNameStartChar c :=
  inRanges_congr (by decide +kernel) (by decide +kernel)

theorem isNameChar_spec : ∀ c : Nat, Gen.isNameChar c = Spec.isNameChar c :=
  inRanges_congr (by decide +kernel) (by decide +kernel)

theorem isPubidChar_spec : ∀ c : Nat, Gen.isPubidChar c = Spec.isPubidChar c :=
  inRanges_congr (by decide +kernel) (by decide +kernel)

theorem isEncNameChar_spec : ∀ c : Nat, Gen.isEncNameChar c = Spec.isEncNameChar c :=
  inRanges_congr (by decide +kernel) (by decide +kernel)

-- non-vacuity: the classes are neither empty nor everything
example : Gen.isNameStartChar 0x2FEF = true ∧ Gen.isNameStartChar 0x30 = false ∧
    Gen.isNameChar 0x30 = true ∧ Gen.isChar 0xFFFE = false ∧ Gen.isChar 0x10FFFF = true := by decide

/-! Part 2: the names accepted by the (generated) productions are exactly the strings the
    Recommendations describe.  `Names.matchesAll n s` runs production `n` of the grammar translated
    from the Rust source on `s` and demands that everything is consumed. -/
open Names Gen.Xml

theorem P_nameStart (c : Char) : P.isNameStartChar c = Spec.isNameStartChar c.toNat := isNameStartChar_spec _
theorem P_nameChar (c : Char) : P.isNameChar c = Spec.isNameChar c.toNat := isNameChar_spec _

theorem matchesAll_of_rest {n : Nat} {s : Str} {o : Option Str}
    (h : (match run env 40 (.nt n) s with | .ok _ r => some r | _ => none) = o) : matchesAll n s = (o == some []) :=
  full_of_rest h

theorem all_ncRest (cs : Str) : cs.all ncRest = (cs.all P.isNameChar && !cs.contains ':') := by
  induction cs with
  | nil => rfl
  | cons d cs ih =>
    simp only [List.all_cons, ih, ncRest, P.except, List.contains_cons, List.contains_nil, Bool.or_false, Bool.not_or,
      BEq.comm (a := ':')]
    ac_rfl

theorem isNCName_cons (c : Char) (cs : Str) :
    Spec.isNCName (c :: cs) = ((c != ':' && P.isNameStartChar c) && cs.all ncRest) := by
  have hfun : (fun d : Char => Spec.isNameChar d.toNat) = P.isNameChar := (funext P_nameChar).symm
  rw [Spec.isNCName, Spec.isName, hfun, ← P_nameStart, all_ncRest, List.contains_cons, Bool.not_or, BEq.comm (a := ':'), bne]
  ac_rfl

theorem ncnameP_eq_some_iff {s a r : Str} : ncnameP s = some (a, r) ↔
    Spec.isNCName a = true ∧ s = a ++ r ∧ (r = [] ∨ ∃ d r', r = d :: r' ∧ ncRest d = false) := by
  constructor
  · intro h
    cases s with
    | nil => cases h
    | cons c cs =>
      rw [ncnameP] at h
      split at h
      · next h1 =>
        cases h
        refine ⟨?_, by rw [List.cons_append, spanP_append], spanP_rest ncRest cs⟩
        rw [isNCName_cons, h1, List.all_eq_true.mpr (spanP_all ncRest cs)]; rfl
      · cases h
  · rintro ⟨ha, rfl, hr⟩
    cases a with
    | nil => cases ha
    | cons c cs =>
      rw [isNCName_cons, Bool.and_eq_true] at ha
      rw [List.cons_append, ncnameP, if_pos ha.1, spanP_of_all ncRest cs r ha.2 hr]

/-- C18: the strings accepted as NCName are exactly Names without a colon (Namespaces [4]) -/
theorem ncname_accepts_iff (s : Str) : matchesAll N.ncname s = Spec.isNCName s := by
  rw [matchesAll_of_rest (ncname_run_rest 34 s), Bool.eq_iff_iff, beq_iff_eq]
  constructor
  · intro h
    obtain ⟨⟨a, r⟩, hn, rfl⟩ := Option.map_eq_some_iff.mp h
    obtain ⟨ha, rfl, _⟩ := ncnameP_eq_some_iff.mp hn
    rwa [List.append_nil]
  · intro h
    rw [ncnameP_eq_some_iff.mpr ⟨h, (List.append_nil s).symm, .inl rfl⟩]; rfl

theorem nameStart_sub_nameChar (c : Char) : P.isNameStartChar c = true → P.isNameChar c = true := by
  intro h
  rw [P_nameChar, Spec.isNameChar, Spec.nameCharRanges, inRanges_append, ← Spec.isNameStartChar, ← P_nameStart, h]; rfl

theorem nameStart_sub (c : Char) (h : P.isNameChar c = false) : P.isNameStartChar c = false := by
  cases hs : P.isNameStartChar c with
  | false => rfl
  | true => rw [nameStart_sub_nameChar c hs] at h; cases h

theorem all_of_span_span (s : Str) :
    (spanP P.isNameChar (spanP P.isNameStartChar s).2).2 = [] ↔ s.all P.isNameChar = true := by
  induction s with
  | nil => simp [spanP]
  | cons c cs ih =>
    by_cases h : P.isNameStartChar c = true
    · simp [spanP, h, ih, nameStart_sub_nameChar c h]
    · rw [show spanP P.isNameStartChar (c :: cs) = ([], c :: cs) by simp [spanP, h]]
      exact spanP_rest_nil_iff _ _

/-- C18, what the code does today for production [5] Name (used for PI targets, entity names and
    notation names): `NameStartChar* NameChar*`, i.e. ANY possibly empty run of NameChars.
    The library's own test suite uses the entity name `1`, so this cannot be repaired without editing a
    test; it is listed in KNOWN_FINDINGS.txt as `name-lax`. -/
theorem name_current_behaviour (s : Str) : matchesAll N.name s = s.all P.isNameChar := by
  rw [matchesAll_of_rest (name_run_rest 34 s), Bool.eq_iff_iff, beq_iff_eq, Option.some.injEq, all_of_span_span]

/-- completeness direction of the full statement: every Name is accepted -/
theorem name_accepts_partial (s : Str) (h : Spec.isName s = true) : matchesAll N.name s = true := by
  rw [name_current_behaviour]
  cases s with
  | nil => cases h
  | cons c cs =>
    rw [Spec.isName, Bool.and_eq_true, ← P_nameStart, ← funext P_nameChar] at h
    rw [List.all_cons, nameStart_sub_nameChar c h.1, h.2]; rfl

/-- witness for the known finding `name-lax`: `1` and the empty string are accepted as Names -/
theorem name_lax_witness : matchesAll N.name ['1'] = true ∧ Spec.isName ['1'] = false ∧
    matchesAll N.name [] = true ∧ Spec.isName [] = false :=
  ⟨by rw [name_current_behaviour]; decide, by decide, by rw [name_current_behaviour]; rfl, rfl⟩

/-- C18: Nmtoken [7] is exactly a non-empty run of NameChars -/
theorem nmtoken_accepts_iff (s : Str) : matchesAll N.nmtoken s = Spec.isNmtoken s := by
  rw [matchesAll_of_rest (nmtoken_run_rest 36 s), Spec.isNmtoken, ← funext P_nameChar]
  cases h : s.all P.isNameChar with
  | true => rw [spanP_eq_of_all h]; cases s <;> rfl
  | false =>
    have h2 : (spanP P.isNameChar s).2 ≠ [] := fun e => by rw [spanP_rest_nil_iff, h] at e; cases e
    rw [Bool.and_false]
    split
    · rfl
    · exact beq_false_of_ne fun e => h2 (Option.some.inj e)

theorem not_contains_all (a : Str) (h : a.contains ':' = false) : a.all (· != ':') = true := by
  induction a with
  | nil => rfl
  | cons x xs ih =>
    simp only [List.contains_cons, Bool.or_eq_false_iff] at h
    simp only [List.all_cons, Bool.and_eq_true, bne_iff_ne, ne_eq]
    exact ⟨fun e => by subst e; simp at h, ih h.2⟩

theorem span_colon (a r' : Str) (h : a.contains ':' = false) : spanP (· != ':') (a ++ ':' :: r') = (a, ':' :: r') :=
  spanP_of_all (· != ':') a (':' :: r') (not_contains_all a h) (.cons r' (by simp))

theorem isNCName_no_colon {t : Str} (h : Spec.isNCName t = true) : t.contains ':' = false := by
  rw [Spec.isNCName, Bool.and_eq_true, Bool.not_eq_true'] at h; exact h.2

theorem ncRest_colon : ncRest ':' = false := by decide

/-- C18: the strings accepted as QName (element and attribute names) are exactly those of Namespaces [7]: an NCName, or two
    NCNames separated by one colon -/
theorem qname_accepts_iff (s : Str) : matchesAll N.qname s = Spec.isQName s := by
  rw [matchesAll_of_rest (qname_run_rest 28 s), Bool.eq_iff_iff, beq_iff_eq, Spec.isQName, Bool.or_eq_true]
  constructor
  · intro h
    obtain ⟨⟨x, r⟩, hq, rfl⟩ := Option.map_eq_some_iff.mp h
    cases hn : ncnameP s with
    | none => simp only [qnameP, hn] at hq; cases hq
    | some ar =>
      obtain ⟨a, r⟩ := ar
      obtain ⟨ha, rfl, _⟩ := ncnameP_eq_some_iff.mp hn
      simp only [qnameP, hn] at hq
      -- one NCName and nothing behind it, or a colon and a second NCName and nothing behind that
      cases r with
      | nil => rw [List.append_nil]; exact .inl ha
      | cons d r' =>
        by_cases hd : d = ':'
        · subst hd
          cases hn2 : ncnameP r' with
          | none => simp only [hn2] at hq; cases hq
          | some br =>
            obtain ⟨b, r''⟩ := br
            simp only [hn2, Option.some.injEq, Prod.mk.injEq] at hq
            obtain ⟨hb, rfl, _⟩ := ncnameP_eq_some_iff.mp hn2
            rw [hq.2, List.append_nil]
            right
            rw [span_colon a b (isNCName_no_colon ha)]
            simp only [ha, hb, Bool.and_self]
        · split at hq
          · next heq => cases heq; exact absurd rfl hd
          · cases hq
  · rintro (h | h)
    · rw [qnameP, ncnameP_eq_some_iff.mpr ⟨h, (List.append_nil s).symm, .inl rfl⟩]; rfl
    · cases hsp : spanP (· != ':') s with
      | mk p rest =>
        rw [hsp] at h
        have happ := spanP_append (· != ':') s
        rw [hsp] at happ
        split at h
        · next p' l heq =>
          cases heq
          rw [Bool.and_eq_true] at h
          rw [← happ, qnameP, ncnameP_eq_some_iff.mpr ⟨h.1, rfl, .inr ⟨':', l, rfl, ncRest_colon⟩⟩]
          simp only [ncnameP_eq_some_iff.mpr ⟨h.2, (List.append_nil l).symm, .inl rfl⟩]; rfl
        · cases h
example : matchesAll N.qname ['p', ':', 'a'] = true ∧ matchesAll N.qname ['p', ':', ':', 'a'] = false ∧ matchesAll N.qname [':', 'a'] = false := by
  rw [qname_accepts_iff, qname_accepts_iff, qname_accepts_iff]; decide

end C18
end XmlRs
