import XmlRsModel.XmlDoc
import XmlRsModel.Lemmas.PegSound
import XmlRsModel.Thm.C18
/-! Property C02: ill-formed input is never reported as a completely parsed document.
    Soundness direction: whatever `parseDoc` returns as a document (a) is a derivation of the
    context-free reading of the grammar translated from the Rust source and consumes exactly the text
    before the reported rest, and (b) satisfies the well-formedness constraints the EBNF cannot
    express.  Re-checked against the regenerated grammar on every run. -/
namespace XmlRs.C02
open XmlRs Gen.Xml

theorem parseDocFuel_ok {ev : Env} {st : Bool} {f : Nat} {s : Str} {d : IDoc} {rest : Str}
    (h : parseDocFuel ev st f s = .ok (d, rest)) :
    ∃ c, run ev f (.nt N.document) s = .ok (.node N.document c) rest ∧
      (maxDepth_element != 0 && c.elemDepth > maxDepth_element) = false ∧
      (maxDepth_children != 0 && c.ntDepth N.children > maxDepth_children) = false ∧
      absDocument c = .ok d ∧ checkDoc d = .ok () ∧ (st && !strictDoc ev d) = false := by
  unfold parseDocFuel at h
  cases hr : run ev f (.nt N.document) s with
  | fuel => rw [hr] at h; cases h
  | fail => rw [hr] at h; cases h
  | ok t r =>
    have hn : ∃ c, t = .node N.document c := by
      cases (run_derives hr).1 with
      | nt _ c _ => exact ⟨c, rfl⟩
    obtain ⟨c, rfl⟩ := hn
    simp only [hr] at h
    rcases Bool.eq_false_or_eq_true (maxDepth_element != 0 && c.elemDepth > maxDepth_element) with h1 | h1
    · simp only [h1, if_true] at h; cases h
    rcases Bool.eq_false_or_eq_true (maxDepth_children != 0 && c.ntDepth N.children > maxDepth_children) with h2 | h2
    · simp only [h1, h2, Bool.false_eq_true, if_false, if_true] at h; cases h
    simp only [h1, h2, Bool.false_eq_true, if_false] at h
    cases hd : absDocument c with
    | error e => simp only [hd] at h; cases h
    | ok d' =>
      cases hc : checkDoc d' with
      | error e => simp only [hd, hc] at h; cases h
      | ok u =>
        rcases Bool.eq_false_or_eq_true (st && !strictDoc ev d') with hs | hs
        · simp only [hd, hc, hs, if_true] at h; cases h
        simp only [hd, hc, hs, Bool.false_eq_true, if_false, Except.ok.injEq, Prod.mk.injEq] at h
        obtain ⟨rfl, rfl⟩ := h
        exact ⟨c, rfl, h1, h2, hd, hc, hs⟩

/-- an accepted text is derivable, for any grammar environment; the consumed part and the rest make up the input -/
theorem accepted_is_derivable (ev : Env) (st : Bool) (s : Str) (d : IDoc) (rest : Str)
    (h : parseDocWith ev st s = .ok (d, rest)) :
    ∃ c, Derives ev (.nt N.document) (.node N.document c) ∧ c.flatten ++ rest = s ∧
      absDocument c = .ok d ∧ checkDoc d = .ok () := by
  obtain ⟨c, hr, _, _, hd, hc, _⟩ := parseDocFuel_ok h
  exact ⟨c, (run_derives hr).1, (run_derives hr).2, hd, hc⟩

/-- a completely parsed document is the flattening of one derivation tree: nothing of the input
    is skipped or invented -/
theorem complete_parse_is_whole_input (ev : Env) (st : Bool) (s : Str) (d : IDoc)
    (h : parseDocWith ev st s = .ok (d, [])) :
    ∃ c, Derives ev (.nt N.document) (.node N.document c) ∧ c.flatten = s := by
  obtain ⟨c, hd, hf, _, _⟩ := accepted_is_derivable ev st s d [] h
  exact ⟨c, hd, by simpa using hf⟩

/-- the character classes the grammar's terminals test are productions [2] [4] [4a] [13] [81] of the
    Recommendation for EVERY character (tables extracted from the running code on this run, proved
    equal in `Thm/C18`) -/
theorem classes_are_the_recommendation (c : Char) :
    P.isChar c = Spec.isChar c.toNat ∧ P.isNameStartChar c = Spec.isNameStartChar c.toNat ∧
    P.isNameChar c = Spec.isNameChar c.toNat ∧ P.isPubidChar c = Spec.isPubidChar c.toNat ∧
    P.isEncName c = Spec.isEncNameChar c.toNat :=
  ⟨C18.isChar_spec _, C18.isNameStartChar_spec _, C18.isNameChar_spec _, C18.isPubidChar_spec _,
   C18.isEncNameChar_spec _⟩

inductive WFPieces (t : EntTable) : List Piece → Prop where
  | nil : WFPieces t []
  | text (s r) : WFPieces t r → WFPieces t (.text s :: r)
  | charRef (d h r) : (charOfRef d h).isSome = true → WFPieces t r → WFPieces t (.charRef d h :: r)
  | entRef (n r) : (lookupEnt t n).isSome = true → WFPieces t r → WFPieces t (.entRef n :: r)
  | peRef (n r) : WFPieces t r → WFPieces t (.peRef n :: r)

mutual
/-- WFC Legal Character, Entity Declared, Unique Att Spec, for an item and everything below it -/
inductive WFItem (t : EntTable) : Item → Prop where
  | text (s) : WFItem t (.text s)
  | charRef (d h) : (charOfRef d h).isSome = true → WFItem t (.charRef d h)
  | entRef (n) : (lookupEnt t n).isSome = true → WFItem t (.entRef n)
  | cdata (s) : WFItem t (.cdata s)
  | pi (a b) : WFItem t (.pi a b)
  | comment (s) : WFItem t (.comment s)
  | elem (n attrs kids) : dupName (attrs.map (·.name)) = false → WFAttrs t attrs → WFItems t kids →
      WFItem t (.elem n attrs kids)
inductive WFAttrs (t : EntTable) : List Attr → Prop where
  | nil : WFAttrs t []
  | cons (a r) : WFPieces t a.vals → WFAttrs t r → WFAttrs t (a :: r)
inductive WFItems (t : EntTable) : List Item → Prop where
  | nil : WFItems t []
  | cons (i r) : WFItem t i → WFItems t r → WFItems t (i :: r)
end

theorem checkPieces_sound (t : EntTable) : ∀ ps, checkPieces t ps = .ok () → WFPieces t ps
  | [], _ => .nil
  | .text s :: r, h => .text s r (checkPieces_sound t r (by simpa [checkPieces] using h))
  | .charRef d hx :: r, h => by
      simp only [checkPieces] at h
      split at h
      · next hc => exact .charRef d hx r hc (checkPieces_sound t r h)
      · cases h
  | .entRef n :: r, h => by
      simp only [checkPieces] at h
      split at h
      · next hc => exact .entRef n r hc (checkPieces_sound t r h)
      · cases h
  | .peRef n :: r, h => .peRef n r (checkPieces_sound t r (by simpa [checkPieces] using h))

mutual
theorem checkItem_sound (t : EntTable) : ∀ i, checkItem t i = .ok () → WFItem t i
  | .text s, _ => .text s
  | .charRef d hx, h => by
      simp only [checkItem] at h
      split at h
      · next hc => exact .charRef d hx hc
      · cases h
  | .entRef n, h => by
      simp only [checkItem] at h
      split at h
      · next hc => exact .entRef n hc
      · cases h
  | .cdata s, _ => .cdata s
  | .pi a b, _ => .pi a b
  | .comment s, _ => .comment s
  | .elem n attrs kids, h => by
      simp only [checkItem] at h
      split at h
      · cases h
      · next hd =>
        split at h
        · cases h
        · next ha => exact .elem n attrs kids (by simpa using hd) (checkAttrs_sound t attrs ha) (checkItems_sound t kids h)
theorem checkAttrs_sound (t : EntTable) : ∀ as, checkAttrs t as = .ok () → WFAttrs t as
  | [], _ => .nil
  | a :: r, h => by
      simp only [checkAttrs] at h
      split at h
      · cases h
      · next hp => exact .cons a r (checkPieces_sound t a.vals hp) (checkAttrs_sound t r h)
theorem checkItems_sound (t : EntTable) : ∀ is, checkItems t is = .ok () → WFItems t is
  | [], _ => .nil
  | i :: r, h => by
      simp only [checkItems] at h
      split at h
      · cases h
      · next hi => exact .cons i r (checkItem_sound t i hi) (checkItems_sound t r h)
end

def docTable (d : IDoc) : EntTable :=
  match d.kids.findSome? fun | .doctype x => some x | _ => none with
  | some x => entTableOf x
  | none => []

/-- every reported document has a root element, and the whole element tree satisfies
    Unique Att Spec, Legal Character and Entity Declared -/
theorem accepted_document_wellformed (ev : Env) (st : Bool) (s : Str) (d : IDoc) (rest : Str)
    (h : parseDocWith ev st s = .ok (d, rest)) :
    ∃ root, (d.kids.findSome? fun | .elem e => some e | _ => none) = some root ∧ WFItem (docTable d) root := by
  obtain ⟨c, _, _, _, hc⟩ := accepted_is_derivable ev st s d rest h
  unfold checkDoc at hc
  simp only at hc
  split at hc
  · cases hc
  · split at hc
    · next root hroot => exact ⟨root, hroot, checkItem_sound _ _ hc⟩
    · cases hc

/-- WFC Element Type Match: an element is an empty-element tag, or its end-tag name equals its
    start-tag name -/
theorem element_tags_match (c : CST) (h : Derives env (env N.element_body) c) :
    (∃ t, c = .node N.empty_entity_tag t) ∨ P.tagNamesMatch c = true := by
  rw [env_element_body, Prod.element_body] at h
  cases h with
  | alt gs g c hg hd =>
    simp only [List.mem_cons, List.mem_nil_iff, or_false] at hg
    rcases hg with rfl | rfl
    · cases hd with | nt n c' _ => exact .inl ⟨c', rfl⟩
    · cases hd with | verify g p c _ hp => exact .inr hp

/-- character data never contains `<`, `&` or the CDATA-section-close delimiter `]]>` -/
theorem chardata_no_markup (c : CST) (h : Derives env (env N.char_data) c) :
    ∃ t, c = .leaf t ∧ hasSub [']', ']', '>'] t = false ∧ ∀ ch ∈ t, ch ≠ '<' ∧ ch ≠ '&' := by
  rw [env_char_data, Prod.char_data] at h
  cases h with
  | until0 p stop t hall hsub =>
    refine ⟨t, rfl, hsub (by simp), fun ch hch => ?_⟩
    have := hall ch hch
    simp only [P.except, Bool.and_eq_true, Bool.not_eq_true'] at this
    have h2 := this.2
    constructor
    · rintro rfl; revert h2; decide
    · rintro rfl; revert h2; decide

/-- a PI target is never `xml` in any mix of cases -/
theorem pi_target_not_xml (c : CST) (h : Derives env (env N.pi_target) c) :
    P.eqIgnoreAsciiCase c.flatten ['x', 'm', 'l'] = false := by
  rw [env_pi_target, Prod.pi_target] at h
  cases h with
  | verify g p c _ hp => simpa using hp

theorem all_nodes_of_derivesAll (n : Nat) : ∀ ms, DerivesAll env (.nt n) ms → ∀ m ∈ ms, ∃ b, m = .node n b
  | [], _, m, hm => by simp at hm
  | c :: cs, .cons _ _ _ hc hr, m, hm => by
      simp only [List.mem_cons] at hm
      rcases hm with rfl | hm
      · cases hc with | nt _ b _ => exact ⟨b, rfl⟩
      · exact all_nodes_of_derivesAll n cs hr m hm

/-- the document production: prolog, exactly one root element, then only Misc -/
theorem document_shape (c : CST) (h : Derives env (env N.document) c) :
    ∃ p e ms, c = .seq [.node N.prolog p, .node N.element e, .many ms] ∧
      ∀ m ∈ ms, ∃ b, m = .node N.misc b := by
  rw [env_document, Prod.document] at h
  cases h with
  | seq gs ks hs =>
    cases hs with
    | cons g gs c cs h1 hs =>
      cases hs with
      | cons g gs c cs h2 hs =>
        cases hs with
        | cons g gs c cs h3 hs =>
          cases hs
          cases h1 with | nt _ p _ =>
          cases h2 with | nt _ e _ =>
          cases h3 with | many _ ms hall =>
          exact ⟨p, e, ms, rfl, all_nodes_of_derivesAll _ ms hall⟩

/-- the specification model additionally enforces the entity-usage constraints -/
theorem spec_accepts_only_strict (s : Str) (d : IDoc) (rest : Str) (h : parseDocSpec s = .ok (d, rest)) :
    strictDoc envSpec d = true := by
  obtain ⟨_, _, _, _, _, _, hs⟩ := parseDocFuel_ok (ev := envSpec) (st := true) h
  simpa using hs

-- non-vacuity: the constraint predicates are not trivially true
example : dupName [⟨none, ['x']⟩, ⟨none, ['x']⟩] = true ∧ (charOfRef ['0'] false).isSome = false ∧
    (charOfRef ['6', '5'] false) = some 'A' ∧ (lookupEnt [] ['n', 'o']).isSome = false := by decide

end XmlRs.C02
