import XmlRsModel.Dom
import XmlRsModel.Thm.C12
import XmlRsModel.Lemmas.DomEffect
/-! Property C14: document order survives edits; query(edited doc) = query(re-parsed copy).
    The library REBUILDS the order vector from the tree after every structural edit (one pre-order
    walk: element, its attributes with their value items, its children); the model therefore defines
    the key of a node as its position in that walk, and a detached node has key 0.  Proved: the keys
    of the attached nodes are exactly 1..n along the walk (non-zero, distinct, strictly increasing)
    whenever the ids of the tree are distinct, for every state - and they are distinct in every state reachable
    from a parsed document by any history of the 25 operations (`C12.no_node_twice`), so the statement holds AT EVERY
    POINT OF ANY EDIT HISTORY (`keys_after_any_history`); a node outside the document tree has key 0
    (`removed_node_key_zero`: in particular the node handed back by removeChild).  The "consequently" (queries on the edited document equal queries on a fresh parse of its
    serialization) is checked on the real code after every step of every history. -/
namespace XmlRs.C14
open XmlRs XmlRs.Dom

/-- the document-order key of node `i`: 1-based position in the pre-order walk of the DOCUMENT tree
    (element, then its attributes with their items, then its children); 0 when `i` is not attached -/
def orderKey (s : St) (i : Nat) : Nat :=
  if (idsOf s.doc).contains i then (idsOf s.doc).idxOf i + 1 else 0

/-- a node that is not in the document tree (created and not inserted, removed, or inside a detached
    subtree) has key 0 -/
theorem detached_key_zero (s : St) (i : Nat) (h : i ∉ idsOf s.doc) : orderKey s i = 0 := by
  simp [orderKey, h]

/-- an attached node has a non-zero key -/
theorem attached_key_pos (s : St) (i : Nat) (h : i ∈ idsOf s.doc) : 0 < orderKey s i := by
  simp [orderKey, h]

/-- along the walk the keys are 1, 2, 3, ...: the k-th node of the walk has key k+1, provided the ids
    of the document tree are pairwise distinct (invariant of the model, property C12) -/
theorem keys_follow_the_walk (s : St) (hn : (idsOf s.doc).Nodup) (k : Nat) (hk : k < (idsOf s.doc).length) :
    orderKey s ((idsOf s.doc)[k]) = k + 1 := by
  have hmem : (idsOf s.doc)[k] ∈ idsOf s.doc := List.getElem_mem hk
  simp [orderKey, hmem, hn.idxOf_getElem k hk]

/-- hence strictly increasing along the walk and pairwise distinct -/
theorem keys_strictly_increase (s : St) (hn : (idsOf s.doc).Nodup) (j k : Nat) (hjk : j < k)
    (hk : k < (idsOf s.doc).length) :
    orderKey s ((idsOf s.doc)[j]'(by omega)) < orderKey s ((idsOf s.doc)[k]) := by
  rw [keys_follow_the_walk s hn j (by omega), keys_follow_the_walk s hn k hk]; omega

/-- the walk: an element comes before its attributes, an attribute before its value items, the
    attributes before the children -/
theorem walk_order (j : Nat) (k : Kind) (d : Str) (as ks : List Node) :
    idsOf (.mk j k d as ks) = j :: (idsOfL as ++ idsOfL ks) := by simp [idsOf]

/-- the ids of the document tree are pairwise distinct in every reachable state -/
theorem doc_ids_nodup (d : IDoc) (ops : List Op) : (idsOf (C12.run (buildSt d) ops).doc).Nodup :=
  List.nodup_iff_count.mpr fun a => by
    have := (C12.inv_run _ ops (buildSt_inv d)).1 a
    rw [cntL_roots] at this
    exact Nat.le_trans (Nat.le_add_right _ _) this

/-- AT EVERY POINT OF ANY EDIT HISTORY of any parsed document: the keys of the attached nodes are 1, 2, 3, … along the
    pre-order walk - non-zero, pairwise distinct, strictly increasing -/
theorem keys_after_any_history (d : IDoc) (ops : List Op) (s : St) (hs : s = C12.run (buildSt d) ops) (j k : Nat) (hjk : j < k)
    (hk : k < (idsOf s.doc).length) :
    0 < orderKey s ((idsOf s.doc)[j]'(by omega)) ∧
    orderKey s ((idsOf s.doc)[j]'(by omega)) < orderKey s ((idsOf s.doc)[k]) ∧
    orderKey s ((idsOf s.doc)[k]) = k + 1 := by
  have hn : (idsOf s.doc).Nodup := by rw [hs]; exact doc_ids_nodup d ops
  refine ⟨?_, keys_strictly_increase s hn j k hjk hk, keys_follow_the_walk s hn k hk⟩
  rw [keys_follow_the_walk s hn j (by omega)]; omega

/-- a node that has just been taken out with removeChild has key 0: it is a detached root, and a node is never in two
    trees -/
theorem removed_node_key_zero (s s' : St) (p c c' : Nat) (hi : Inv s) (h : step s (.removeChild p c) = (s', .node c')) :
    orderKey s' c = 0 := by
  apply detached_key_zero
  intro hmem
  have hi' : Inv s' := C12.inv_after hi h
  obtain ⟨pn, pn', cn, hp, hc, hp', hk, hdet⟩ := removeChild_effect s s' p c c' hi h
  -- c occurs in the document tree and (as root) in a detached tree: twice among the roots
  have h1 := (mem_ids_iff c s'.doc).mp hmem
  have h2 := cnt_id_pos cn
  have h3 := isSubL_cnt cn c s'.detached (isSubL_of_mem cn s'.detached hdet)
  have h4 := hi'.1 c
  rw [(findInL_some hc).1] at h2
  rw [cntL_roots] at h4
  omega

/-! ### keys as a function of node identity -/
/-- two attached nodes with the same key are the same node (pairwise distinct, stated over node
    identities rather than walk positions; no hypothesis on the ids is needed for this direction) -/
theorem key_injective (s : St) (i j : Nat) (hi : i ∈ idsOf s.doc) (hj : j ∈ idsOf s.doc)
    (h : orderKey s i = orderKey s j) : i = j := by
  simp only [orderKey, List.contains_iff_mem, hi, hj, if_true, Nat.add_right_cancel_iff] at h
  have := List.getElem_idxOf (List.idxOf_lt_length_of_mem hi)
  have h2 := List.getElem_idxOf (List.idxOf_lt_length_of_mem hj)
  simp only [h] at this
  rw [← this, h2]

/-- a key decides attachment: key 0 exactly for the nodes outside the document tree -/
theorem key_zero_iff_detached (s : St) (i : Nat) : orderKey s i = 0 ↔ i ∉ idsOf s.doc := by
  constructor
  · intro h hm; have := attached_key_pos s i hm; omega
  · exact detached_key_zero s i

/-- no key exceeds the number of attached nodes (that every value 1..n is taken is `keys_follow_the_walk`) -/
theorem key_le_count (s : St) (i : Nat) : orderKey s i ≤ (idsOf s.doc).length := by
  unfold orderKey; split
  · next h => have := List.idxOf_lt_length_of_mem (List.contains_iff_mem.mp h); omega
  · omega

/-- at every point of any edit history: distinct attached nodes have distinct non-zero keys -/
theorem distinct_nodes_distinct_keys (d : IDoc) (ops : List Op) (i j : Nat)
    (hi : i ∈ idsOf (C12.run (buildSt d) ops).doc) (hj : j ∈ idsOf (C12.run (buildSt d) ops).doc) (hne : i ≠ j) :
    orderKey (C12.run (buildSt d) ops) i ≠ orderKey (C12.run (buildSt d) ops) j ∧
    0 < orderKey (C12.run (buildSt d) ops) i ∧ 0 < orderKey (C12.run (buildSt d) ops) j :=
  ⟨fun h => hne (key_injective _ i j hi hj h), attached_key_pos _ i hi, attached_key_pos _ j hj⟩

end XmlRs.C14
