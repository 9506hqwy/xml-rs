import XmlRsModel.Thm.C15
import XmlRsModel.Thm.C16
import XmlRsModel.Thm.C18
import XmlRsModel.Lemmas.DomValidStep
import XmlRsModel.Lemmas.AttValueInv
/-! Property C15, the invariant over histories: every node of every tree of a reachable state (the document and all
    detached trees) satisfies `nodeOK` - whatever sequence of factories, insertions, removals, replacements, attribute
    operations, data edits, `splitText` and `normalize` led there, and whether the calls succeeded or failed.  `nodeOK` asks
    the library's own validity check of comments, CDATA sections, PIs and element / attribute names, the weaker `weakText`
    of Text nodes, and nothing of reference, doctype and document nodes.  `Thm/C15.lean` has the single-step facts and
    the closed forms of the validity predicates; with them the invariant reads:
    no Text node ever holds `<` or `&`, no comment `--` or a trailing `-`, no CDATA section `]]>`, no PI `?>`. -/
namespace XmlRs.C15
open XmlRs XmlRs.Dom Gen.Xml

/-- what a node of kind `k` with data `d` must satisfy.  For Text nodes the weaker `weakText` (only Chars, no `<`, no
    `&`): a Text node inside an attribute value may hold `]]>` and `>`; the stronger `validText` is what every data edit
    checks (`Thm/C15.data_edit_validates_outcome`). -/
def nodeOK : Kind → Str → Bool
  | .text, d => weakText d
  | .comment, d => validComment d
  | .cdata, d => validCData d
  | .pi t, d => validPITarget t && validPI t d
  | .elem n, _ => validQName n
  | .attr n _, _ => validQName n
  | _, _ => true

theorem validText_weak (d : Str) (h : validText d = true) : weakText d = true := by
  rw [validText_iff, Bool.and_eq_true] at h
  exact List.all_eq_true.mpr fun c hc => avChar_of_except rfl rfl (List.all_eq_true.mp h.1 c hc)

/-- the stored PI data (leading white space belongs to the separator) is valid when the supplied data is -/
theorem validPI_stored (t d : Str) (ht : validPITarget t = true) (h : validPI t d = true) : validPI t (storedPIData d) = true := by
  rw [validPI_iff t _ ht, Bool.and_eq_true, Bool.not_eq_true'] at h ⊢
  rw [← List.takeWhile_append_dropWhile (p := isWs) (l := d), List.all_append, Bool.and_eq_true] at h
  exact ⟨h.1.2, (noSub_parts _ _ _ h.2).2⟩

theorem nodeOK_facts : QFacts nodeOK where
  text := fun d h => validText_weak d h
  comment := fun d h => h
  cdata := fun d h => h
  pi := fun t d ht h => by simp only [nodeOK, Bool.and_eq_true]; exact ⟨ht, validPI_stored t d ht h⟩
  elem := fun n h => h
  attr := fun n sp h => h
  ref := fun n _ _ => rfl
  pieces := fun v ps h p hp => by
    have := parseAttrValue_pieces v ps h p hp
    cases p <;> first | exact this | rfl
  edit := fun k d0 d' h0 hv => by
    cases k with
    | text => exact validText_weak d' hv
    | comment => exact hv
    | cdata => exact hv
    | pi t =>
      simp only [nodeOK, Bool.and_eq_true] at h0 ⊢
      exact ⟨h0.1, validPI_stored t d' h0.1 hv⟩
    | _ => simp [validData] at hv
  split := fun k d off l r hk h hsp => by
    obtain ⟨rfl, _⟩ := C16.splitText_eq_some.mp hsp
    rcases hk with rfl | rfl
    · rwa [nodeOK, weakText, List.all_append, Bool.and_eq_true] at h
    · simp only [nodeOK, validCData_iff, List.all_append, Bool.and_eq_true, Bool.not_eq_true'] at h ⊢
      have := noSub_parts _ _ _ h.2
      exact ⟨⟨h.1.1, this.1⟩, h.1.2, this.2⟩

/-- ONE STEP: whatever the operation and whatever it answers, every node still holds validated data -/
theorem step_keeps_valid (s : St) (op : Op) (hi : Inv s) (hv : ValidInv nodeOK s) : ValidInv nodeOK (step s op).1 :=
  step_valid nodeOK_facts s op hi hv

theorem valid_after_any_history (s : St) (ops : List Op) (hi : Inv s) (hv : ValidInv nodeOK s) : ValidInv nodeOK (C12.run s ops) :=
  C12.run_invariant_under_inv step_keeps_valid s ops hi hv

def St.has (s : St) (n : Node) : Prop := ∃ i, s.find i = some n

theorem node_is_valid (s : St) (hv : ValidInv nodeOK s) (n : Node) (hn : St.has s n) : nodeOK n.kind n.data = true := by
  obtain ⟨i, hi⟩ := hn
  exact own_Q nodeOK n (found_valid nodeOK s hv i n hi)

theorem reachable_ok (s0 : St) (ops : List Op) (hi : Inv s0) (hv : ValidInv nodeOK s0) (n : Node)
    (hn : St.has (C12.run s0 ops) n) : nodeOK n.kind n.data = true :=
  node_is_valid _ (valid_after_any_history s0 ops hi hv) n hn

theorem reachable_text_is_clean (s0 : St) (ops : List Op) (hi : Inv s0) (hv : ValidInv nodeOK s0) (n : Node)
    (hn : St.has (C12.run s0 ops) n) (hk : n.kind = .text) :
    ∀ c ∈ n.data, P.isChar c = true ∧ c ≠ '<' ∧ c ≠ '&' := by
  have := reachable_ok s0 ops hi hv n hn
  rw [hk] at this
  simp only [nodeOK, weakText, List.all_eq_true] at this
  intro c hc
  have h := this c hc
  simp only [avChar, Bool.and_eq_true, bne_iff_ne, ne_eq] at h
  exact ⟨h.1.1, h.1.2, h.2⟩

theorem reachable_comment_is_production15 (s0 : St) (ops : List Op) (hi : Inv s0) (hv : ValidInv nodeOK s0) (n : Node)
    (hn : St.has (C12.run s0 ops) n) (hk : n.kind = .comment) : isCommentBody n.data = true := by
  have := reachable_ok s0 ops hi hv n hn
  rw [hk] at this
  simpa [nodeOK, validComment_iff] using this

theorem reachable_cdata_has_no_terminator (s0 : St) (ops : List Op) (hi : Inv s0) (hv : ValidInv nodeOK s0) (n : Node)
    (hn : St.has (C12.run s0 ops) n) (hk : n.kind = .cdata) :
    n.data.all P.isChar = true ∧ hasSub [']', ']', '>'] n.data = false := by
  have := reachable_ok s0 ops hi hv n hn
  rw [hk] at this
  simp only [nodeOK, validCData_iff, Bool.and_eq_true, Bool.not_eq_true'] at this
  exact this

theorem reachable_pi_is_wellformed (s0 : St) (ops : List Op) (hi : Inv s0) (hv : ValidInv nodeOK s0) (n : Node) (t : Str)
    (hn : St.has (C12.run s0 ops) n) (hk : n.kind = .pi t) :
    isName t = true ∧ P.eqIgnoreAsciiCase t xmlS = false ∧ n.data.all P.isChar = true ∧ hasSub ['?', '>'] n.data = false := by
  have := reachable_ok s0 ops hi hv n hn
  rw [hk] at this
  simp only [nodeOK, Bool.and_eq_true] at this
  obtain ⟨ht, hd⟩ := this
  rw [validPI_iff t _ ht, Bool.and_eq_true, Bool.not_eq_true'] at hd
  rw [validPITarget_iff, Bool.and_eq_true, Bool.not_eq_true'] at ht
  exact ⟨ht.1, ht.2, hd.1, hd.2⟩

/-! ### the initial state: a document whose items are valid (decidable; evaluated on every parsed document of a run) -/
theorem mkItems_ok (ps : List Piece) (next : Nat) (h : ps.all pieceOK = true) : allQL nodeOK (mkItems next ps).1 = true := by
  refine mkItems_allQ ps next (fun p hp => ?_)
  have := (List.all_eq_true.mp h) p hp
  cases p <;> first | exact this | rfl

theorem buildAttrs_ok : ∀ (as : List Attr) (next : Nat), as.all attrOK = true → allQL nodeOK (buildAttrs next as).1 = true
  | [], _, _ => by simp [buildAttrs, allQL]
  | a :: r, next, h => by
    simp only [List.all_cons, Bool.and_eq_true] at h
    unfold buildAttrs
    split
    · exact buildAttrs_ok r next h.2
    · simp only [attrOK, Bool.and_eq_true] at h
      simp only [allQL_cons, allQ_mk, allQL, Bool.and_true, Bool.and_eq_true]
      exact ⟨⟨h.1.1, mkItems_ok _ _ h.1.2⟩, buildAttrs_ok r _ h.2⟩

mutual
theorem buildNode_ok : (next : Nat) → (i : Item) → itemOK i = true → allQ nodeOK (buildNode next i).1 = true
  | next, .text s, h => by simpa [buildNode, allQ_mk, allQL, nodeOK, itemOK] using h
  | next, .cdata s, h => by simpa [buildNode, allQ_mk, allQL, nodeOK, itemOK] using h
  | next, .comment s, h => by simpa [buildNode, allQ_mk, allQL, nodeOK, itemOK] using h
  | next, .pi t d, h => by simpa [buildNode, allQ_mk, allQL, nodeOK, itemOK] using h
  | next, .charRef d hx, _ => by simp [buildNode, allQ_mk, allQL, nodeOK]
  | next, .entRef n, _ => by simp [buildNode, allQ_mk, allQL, nodeOK]
  | next, .elem q attrs kids, h => by
    simp only [itemOK, Bool.and_eq_true] at h
    have h1 := buildAttrs_ok attrs (next + 1) h.1.2
    have h2 := buildNodes_ok (buildAttrs (next + 1) attrs).2 kids h.2
    simp only [buildNode, allQ_mk, Bool.and_eq_true, nodeOK]
    exact ⟨⟨h.1.1, h1⟩, h2⟩
theorem buildNodes_ok : (next : Nat) → (l : List Item) → itemsOK l = true → allQL nodeOK (buildNodes next l).1 = true
  | next, [], _ => by simp [buildNodes, allQL]
  | next, k :: r, h => by
    simp only [itemsOK, Bool.and_eq_true] at h
    simp only [buildNodes, allQL_cons, Bool.and_eq_true]
    exact ⟨buildNode_ok next k h.1, buildNodes_ok _ r h.2⟩
end

theorem buildTops_ok : ∀ (next : Nat) (l : List TopItem), l.all topOK = true → allQL nodeOK (buildTops next l).1 = true
  | next, [], _ => by simp [buildTops, allQL]
  | next, t :: r, h => by
    simp only [List.all_cons, Bool.and_eq_true] at h
    simp only [buildTops, allQL_cons, Bool.and_eq_true]
    refine ⟨?_, buildTops_ok _ r h.2⟩
    cases t with
    | elem e => exact buildNode_ok next e h.1
    | comment s => simpa [buildTop, allQ_mk, allQL, nodeOK, topOK] using h.1
    | pi tg d => simpa [buildTop, allQ_mk, allQL, nodeOK, topOK] using h.1
    | doctype dt => simp [buildTop, allQ_mk, allQL, nodeOK]

theorem buildSt_valid (d : IDoc) (h : docOK d = true) : ValidInv nodeOK (buildSt d) := by
  rw [validInv_iff]
  simp only [buildSt, allQ_mk, allQL, nodeOK, Bool.true_and, Bool.and_eq_true, and_true]
  exact buildTops_ok 1 d.kids h

/-- FROM A DOCUMENT: start from any document whose items are valid (every parsed document of every run is checked to be),
    apply any sequence of DOM operations: every node of the document tree and of every detached tree holds validated data -/
theorem document_stays_valid (d : IDoc) (ops : List Op) (h : docOK d = true) : ValidInv nodeOK (C12.run (buildSt d) ops) :=
  valid_after_any_history (buildSt d) ops (buildSt_inv d) (buildSt_valid d h)

/-! ### names, in closed form: exactly the QNames of Namespaces in XML [7] -/
theorem validQName_iff (s : Str) : validQName s = Spec.isQName s := by
  rw [← C18.qname_accepts_iff, C18.matchesAll_of_rest (Names.qname_run_rest 28 s), validQName, fullMatch,
    show 100000 + 64 * s.length = 99988 + 64 * s.length + 12 by omega]
  exact Names.full_of_rest (Names.qname_run_rest _ s)

theorem reachable_names_are_QNames (s0 : St) (ops : List Op) (hi : Inv s0) (hv : ValidInv nodeOK s0) (n : Node)
    (hn : St.has (C12.run s0 ops) n) :
    (∀ nm, n.kind = .elem nm → Spec.isQName nm = true) ∧ (∀ nm sp, n.kind = .attr nm sp → Spec.isQName nm = true) := by
  have := reachable_ok s0 ops hi hv n hn
  constructor
  · intro nm hk; rw [hk] at this; rw [← validQName_iff]; exact this
  · intro nm sp hk; rw [hk] at this; rw [← validQName_iff]; exact this

/-! ### the hypothesis is satisfiable: a document with every kind of item, an attribute value holding `]]>` and a reference -/
def exDoc : IDoc := { (default : IDoc) with kids := [.comment ['c'], .elem (.elem ⟨none, ['r']⟩ [⟨⟨some ['p'], ['a']⟩, [.text ['x', ']', ']', '>'], .entRef ['l', 't']]⟩]
  [.text ['t'], .comment ['-', 'c'], .cdata [']', ']'], .pi ['p'] (some ['d', '?']), .elem ⟨none, ['e']⟩ [] []])] }

example : docOK exDoc = true := by
  have hp : validPITarget ['p'] = true := by rw [validPITarget_iff]; decide
  simp only [docOK, exDoc, List.all_cons, List.all_nil, topOK, itemOK, itemsOK, attrOK, pieceOK, QN.text, Option.getD, validComment_iff,
    validCData_iff, hp, validPI_iff _ _ hp, validQName_iff]
  decide +kernel

end XmlRs.C15
