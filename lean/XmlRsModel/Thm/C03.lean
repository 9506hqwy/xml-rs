import XmlRsModel.AttrNorm
import XmlRsModel.Lemmas.PegSound
import XmlRsModel.Thm.C02
/-! Property C03: parsing and printing are total.
    What a theorem can carry here: every function of the model is total by construction (Lean accepts
    only terminating definitions: the printers and the abstraction by structural recursion, entity
    expansion by a fuel bounded by the number of declared entities plus a visited list, the parser by
    fuel); unsupported constructs and hostile shapes are ERRORS of the model, not stuck states; a
    non-`fuel` answer of the parser does not depend on the amount of fuel.
    What it cannot carry (observed by the check, stated as partial): real stack use and running time;
    `xml_fuel_sufficient` of DESIGN.md (the driver's fuel formula never runs out) is checked on every explored input
    (outcome class `fuel` never appears) but not proved. -/
namespace XmlRs.C03
open XmlRs Gen.Xml

theorem parse_answer_stable (ev : Env) (f f' : Nat) (hle : f ≤ f') (s : Str) (out : Res CST)
    (h : run ev f (.nt N.document) s = out) (hne : out ≠ .fuel) :
    run ev f' (.nt N.document) s = out := run_mono_le ev hle h hne

/-- hostile shape 1, cyclic entity definitions: expanding an entity that refers to itself is an
    error, for every entity table and every declared type -/
theorem cyclic_entity_is_error (t : EntTable) (ty : Option AttType) (name : Str)
    (h : lookupEnt t name = some (.internal [.entRef name])) :
    normalizedValue t ty [.entRef name] = .error .reference := by
  have h1 : ∀ fuel, expandEnt t (fuel + 2) [] name = .error .reference := by
    intro fuel
    simp [expandEnt, h, expandEnt.go]
  have : t.length + 6 = (t.length + 4) + 2 := by omega
  simp [normalizedValue, normalizedValue.go, this, h1]

theorem cyclic_pair_is_error (t : EntTable) (ty : Option AttType) (a b : Str) (hab : a ≠ b)
    (ha : lookupEnt t a = some (.internal [.entRef b])) (hb : lookupEnt t b = some (.internal [.entRef a])) :
    normalizedValue t ty [.entRef a] = .error .reference := by
  have h1 : ∀ fuel, expandEnt t (fuel + 3) [] a = .error .reference := by
    intro fuel
    simp [expandEnt, ha, hb, expandEnt.go, hab, Ne.symm hab]
  have : t.length + 6 = (t.length + 3) + 3 := by omega
  simp [normalizedValue, normalizedValue.go, this, h1]

/-- unsupported construct: a parameter-entity reference in the internal subset is reported as
    an error (class `unsupported`), whatever follows -/
theorem pe_reference_is_error (b : CST) (rest : List (Nat × CST)) (h : b.kidsL.isEmpty = false) :
    absIntSubset ((N.decl_sep, b) :: rest) = .error .unsupported := by
  have h1 : (N.decl_sep == N.markup_decl) = false := by decide
  simp [absIntSubset, h1, h]

/-- hostile shape 2, very deep nesting: no accepted document nests elements, or the groups of a
    content model, deeper than the limits read from the source (`MAX_ELEMENT_DEPTH`,
    `MAX_GROUP_DEPTH`), so every recursion over an accepted document is bounded by those constants -/
theorem depth_refused (ev : Env) (st : Bool) (s : Str) (d : IDoc) (rest : Str)
    (h : parseDocWith ev st s = .ok (d, rest)) (hlim : maxDepth_element ≠ 0) (hlim2 : maxDepth_children ≠ 0) :
    ∃ c, c.flatten ++ rest = s ∧ absDocument c = .ok d ∧ c.elemDepth ≤ maxDepth_element ∧
      c.ntDepth N.children ≤ maxDepth_children := by
  obtain ⟨c, hr, h1, h2, hd, _, _⟩ := C02.parseDocFuel_ok h
  have hne1 : (maxDepth_element != 0) = true := by simpa using hlim
  have hne2 : (maxDepth_children != 0) = true := by simpa using hlim2
  rw [hne1, Bool.true_and, decide_eq_false_iff_not, Nat.not_lt] at h1
  rw [hne2, Bool.true_and, decide_eq_false_iff_not, Nat.not_lt] at h2
  exact ⟨c, (run_derives hr).2, hd, h1, h2⟩

theorem depth_limit_present : maxDepth_element ≠ 0 ∧ maxDepth_children ≠ 0 := by decide

/-- every outcome of the model is one of the listed classes; there is no `panic` outcome to reach:
    the pipeline is a total function into `Except XErr _` -/
theorem pipeline_total (s : Str) : ∃ r : Except XErr (IDoc × Str), parseDoc s = r := ⟨_, rfl⟩

end XmlRs.C03
