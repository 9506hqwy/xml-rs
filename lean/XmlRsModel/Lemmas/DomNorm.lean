import XmlRsModel.Lemmas.DomInv
/-! `Element.normalize` (Dom.normNode / normAttrs / normList): the branch equations of the three functions; nothing is
    lost and nothing is duplicated (every node of the subtree is afterwards in the normalized subtree or among the dropped
    nodes, exactly once); the element reads as before (`tokens`). -/
namespace XmlRs.Dom
open List

theorem cntL_toList (a : Nat) (p : Option Node) : cntL a p.toList = (match p with | some x => cnt a x | none => 0) := by
  cases p <;> simp [cntL_cons, cntL_nil]

/-! ### the equations of `normNode` / `normAttrs` / `normList`, one per branch: the cases of `normNode.mutual_induct` -/
theorem normNode_elem (j : Nat) (nm d : Str) (as ks : List Node) :
    normNode (.mk j (.elem nm) d as ks) =
      (.mk j (.elem nm) d (normAttrs as).1 (normList none ks).1, (normAttrs as).2 ++ (normList none ks).2) := by
  simp only [normNode]
theorem normNode_other {j : Nat} {k : Kind} {d : Str} {as ks : List Node} (hk : ∀ nm, k ≠ .elem nm) :
    normNode (.mk j k d as ks) = (.mk j k d as ks, []) := by
  cases k <;> first | rfl | exact absurd rfl (hk _)
theorem normList_nil (prev : Option Node) : normList prev [] = (prev.toList, []) := by simp only [normList]
theorem normList_empty {prev : Option Node} {j : Nat} {d : Str} {as ks r : List Node} (hd : d.isEmpty = true) :
    normList prev (.mk j .text d as ks :: r) = ((normList prev r).1, .mk j .text d as ks :: (normList prev r).2) := by
  simp only [normList, hd, if_true]
theorem normList_merge {p : Node} {j : Nat} {d : Str} {as ks r : List Node} (hd : ¬ d.isEmpty = true)
    (hv : validText (p.data ++ d) = true) :
    normList (some p) (.mk j .text d as ks :: r) =
      ((normList (some (p.withData (p.data ++ d))) r).1, .mk j .text d as ks :: (normList (some (p.withData (p.data ++ d))) r).2) := by
  simp only [normList, hd, hv, if_true, Bool.false_eq_true, if_false]
theorem normList_cut {p : Node} {j : Nat} {d : Str} {as ks r : List Node} (hd : ¬ d.isEmpty = true)
    (hv : ¬ validText (p.data ++ d) = true) :
    normList (some p) (.mk j .text d as ks :: r) =
      (p :: (normList (some (.mk j .text d as ks)) r).1, (normList (some (.mk j .text d as ks)) r).2) := by
  simp only [normList, hd, hv, Bool.false_eq_true, if_false]
theorem normList_first {j : Nat} {d : Str} {as ks r : List Node} (hd : ¬ d.isEmpty = true) :
    normList none (.mk j .text d as ks :: r) = normList (some (.mk j .text d as ks)) r := by
  simp only [normList, hd, Bool.false_eq_true, if_false]
theorem normList_elem (prev : Option Node) (j : Nat) (nm d : Str) (as ks r : List Node) :
    normList prev (.mk j (.elem nm) d as ks :: r) =
      (prev.toList ++ (normNode (.mk j (.elem nm) d as ks)).1 :: (normList none r).1,
       (normNode (.mk j (.elem nm) d as ks)).2 ++ (normList none r).2) := by
  simp only [normList]
theorem normList_other {prev : Option Node} {j : Nat} {k : Kind} {d : Str} {as ks r : List Node}
    (h1 : k ≠ .text) (h2 : ∀ nm, k ≠ .elem nm) :
    normList prev (.mk j k d as ks :: r) = (prev.toList ++ .mk j k d as ks :: (normList none r).1, (normList none r).2) := by
  cases k <;> first | exact absurd rfl h1 | exact absurd rfl (h2 _) | simp only [normList]
theorem normAttrs_nil : normAttrs [] = ([], []) := by simp only [normAttrs]
theorem normAttrs_cons (j : Nat) (k : Kind) (d : Str) (as ks r : List Node) :
    normAttrs (.mk j k d as ks :: r) =
      (.mk j k d as (normList none ks).1 :: (normAttrs r).1, (normList none ks).2 ++ (normAttrs r).2) := by
  simp only [normAttrs]

/-! ### nothing lost, nothing duplicated -/
theorem norm_count (a : Nat) :
    (∀ n, cnt a (normNode n).1 + cntL a (normNode n).2 = cnt a n) ∧
    (∀ prev l, cntL a (normList prev l).1 + cntL a (normList prev l).2 = cntL a prev.toList + cntL a l) ∧
    (∀ l, cntL a (normAttrs l).1 + cntL a (normAttrs l).2 = cntL a l) := by
  apply normNode.mutual_induct
  · intro j d as ks nm h1 h2
    rw [normNode_elem]; simp only [cnt_mk, cntL_append, cntL_toList] at h1 h2 ⊢; omega
  · intro j d as ks k hk
    rw [normNode_other hk]; simp only [cntL_nil, Nat.add_zero]
  · intro prev; rw [normList_nil]
  · intro prev j d as ks r hd ih
    rw [normList_empty hd]; simp only [cntL_cons] at ih ⊢; omega
  · intro j d as ks r hd p hv ih
    rw [normList_merge hd hv]; simp only [cntL_cons, Option.toList, cnt_withData, cntL_nil] at ih ⊢; omega
  · intro j d as ks r hd p hv ih
    rw [normList_cut hd hv]; simp only [cntL_cons, Option.toList, cntL_nil] at ih ⊢; omega
  · intro j d as ks r hd ih
    rw [normList_first hd]; simp only [cntL_cons, Option.toList, cntL_nil] at ih ⊢; omega
  · intro prev j d as ks r nm ih1 ih2
    rw [normList_elem]; simp only [cntL_cons, cntL_append, Option.toList, cntL_nil] at ih1 ih2 ⊢; omega
  · intro prev j k d as ks r h1 h2 ih
    rw [normList_other h1 h2]
    simp only [cntL_cons, cntL_append, Option.toList, cntL_nil] at ih ⊢; omega
  · rw [normAttrs_nil]; rfl
  · intro j k d as ks r ih1 ih2
    rw [normAttrs_cons]; simp only [cntL_cons, cnt_mk, cntL_append, Option.toList, cntL_nil] at ih1 ih2 ⊢; omega

theorem normNode_count (a : Nat) : (n : Node) → cnt a (normNode n).1 + cntL a (normNode n).2 = cnt a n :=
  (norm_count a).1
theorem normAttrs_count (a : Nat) : (l : List Node) → cntL a (normAttrs l).1 + cntL a (normAttrs l).2 = cntL a l :=
  (norm_count a).2.2
theorem normList_count (a : Nat) : (prev : Option Node) → (l : List Node) →
    cntL a (normList prev l).1 + cntL a (normList prev l).2 = cntL a prev.toList + cntL a l :=
  (norm_count a).2.1

/-- `normalize` moves nodes (out of the subtree, among the detached trees); it neither loses nor duplicates one -/
theorem normalize_sameIds (s : St) (e : Nat) (hi : Inv s) : SameIds s (step s (.normalize e)).1 := by
  simp only [step]
  cases hf : s.find e with
  | none => exact SameIds.refl s
  | some en =>
    refine ⟨rfl, fun a => ?_⟩
    have h := update_count s e (fun n => (normNode n).1) en a (cntL a (normNode en).2) 0 hi.1 hf (normNode_count a en)
    simp only [cntL_roots, cntL_append] at h ⊢
    show cnt a (s.update e fun n => (normNode n).1).doc + (cntL a (s.update e fun n => (normNode n).1).detached + cntL a (normNode en).2) = _
    omega

/-! ### what `normalize` must not change: everything except how character data is cut into Text nodes -/
/-- a token of the reading below: one character of a Text node, or a mark (id, kind, data) of any other node -/
abbrev Tok := Sum Char (Nat × Kind × Str)

mutual
/-- a subtree read in document order: a Text node contributes its characters one by one (so the reading does not see where
    one Text node ends and the next begins, nor an empty one); every other node contributes a mark carrying its identity,
    kind and data - an element an opening and a closing mark around its attributes and children -/
def tokens : Node → List Tok
  | .mk j k d as ks =>
    match k with
    | .text => d.map Sum.inl
    | .elem _ => [Sum.inr (j, k, [])] ++ tokensA as ++ tokensL ks ++ [Sum.inr (j, k, [])]
    | _ => [Sum.inr (j, k, d)] ++ tokensL ks
def tokensA : List Node → List Tok
  | [] => []
  | (.mk j k d _ ks) :: r => [Sum.inr (j, k, d)] ++ tokensL ks ++ [Sum.inr (j, k, d)] ++ tokensA r
def tokensL : List Node → List Tok
  | [] => []
  | n :: r => tokens n ++ tokensL r
end

theorem tokensL_append (a b : List Node) : tokensL (a ++ b) = tokensL a ++ tokensL b := by
  induction a with
  | nil => simp [tokensL]
  | cons n r ih => simp [tokensL, ih]

theorem tokensL_toList (p : Option Node) : tokensL p.toList = (match p with | some x => tokens x | none => []) := by
  cases p <;> simp [tokensL]

theorem tokens_text_withData (p : Node) (d : Str) (h : p.kind = .text) : tokens (p.withData d) = d.map Sum.inl := by
  cases p with
  | mk j k d0 as ks => simp only [Node.kind] at h; subst h; simp [Node.withData, tokens]

theorem tokens_text (p : Node) (h : p.kind = .text) : tokens p = p.data.map Sum.inl := by
  cases p with
  | mk j k d0 as ks => simp only [Node.kind] at h; subst h; simp [tokens, Node.data]

/-- the reading is kept; for `normList` under the hypothesis, true at every call, that the pending node `prev` is a Text node -/
theorem norm_tokens :
    (∀ n, tokens (normNode n).1 = tokens n) ∧
    (∀ prev l, (∀ p, prev = some p → p.kind = .text) → tokensL (normList prev l).1 = tokensL prev.toList ++ tokensL l) ∧
    (∀ l, tokensA (normAttrs l).1 = tokensA l) := by
  have text_mk : ∀ (j : Nat) (d : Str) (as ks : List Node) q, some (Node.mk j .text d as ks) = some q → q.kind = .text :=
    fun _ _ _ _ _ hq => by cases hq; rfl
  apply normNode.mutual_induct
  · intro j d as ks nm h1 h2
    rw [normNode_elem]; simp only [tokens, h1, h2 nofun, tokensL_toList, List.nil_append]
  · intro j d as ks k hk
    rw [normNode_other hk]
  · intro prev _; rw [normList_nil]; simp only [tokensL, List.append_nil]
  · intro prev j d as ks r hd ih hp
    rw [normList_empty hd, ih hp]
    simp only [tokensL, tokens, List.isEmpty_iff.mp hd, List.map_nil, List.nil_append]
  · intro j d as ks r hd p hv ih hp
    have hpk := hp p rfl
    rw [normList_merge hd hv, ih (fun q hq => by cases hq; cases p; exact hpk)]
    simp only [Option.toList, tokensL, tokens, tokens_text_withData p _ hpk, tokens_text p hpk, List.map_append,
      List.append_nil, List.append_assoc]
  · intro j d as ks r hd p hv ih hp
    rw [normList_cut hd hv]
    simp only [tokensL, ih (text_mk j d as ks), Option.toList, tokens, List.append_nil]
  · intro j d as ks r hd ih _
    rw [normList_first hd, ih (text_mk j d as ks)]
    simp only [Option.toList, tokensL, tokens, List.append_nil, List.nil_append]
  · intro prev j d as ks r nm ih1 ih2 _
    rw [normList_elem]
    simp only [tokensL_append, tokensL, ih1, ih2 nofun, tokensL_toList, List.nil_append]
  · intro prev j k d as ks r h1 h2 ih _
    rw [normList_other h1 h2]
    simp only [tokensL_append, tokensL, ih nofun, tokensL_toList, List.nil_append]
  · rw [normAttrs_nil]
  · intro j k d as ks r ih1 ih2
    rw [normAttrs_cons]; simp only [tokensA, ih1 nofun, ih2, tokensL_toList, List.nil_append]

theorem normNode_tokens : (n : Node) → tokens (normNode n).1 = tokens n :=
  norm_tokens.1
theorem normAttrs_tokens : (l : List Node) → tokensA (normAttrs l).1 = tokensA l :=
  norm_tokens.2.2
theorem normList_tokens : (prev : Option Node) → (∀ p, prev = some p → p.kind = .text) → (l : List Node) →
    tokensL (normList prev l).1 = tokensL prev.toList ++ tokensL l :=
  fun prev hp l => norm_tokens.2.1 prev l hp

end XmlRs.Dom
