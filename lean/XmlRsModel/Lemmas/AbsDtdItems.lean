import XmlRsModel.Lemmas.AbsDtd
/-! `abs (tree) = erase` for external identifiers, attribute types, defaults and attribute definitions. -/
namespace XmlRs.Lex
open XmlRs Gen.Xml XmlRs.Names

@[cst_simp] theorem unquote_quoted (q : Char) (l : Str) : unquote (q :: (l ++ [q])) = l := by
  simp only [unquote, List.drop_succ_cons, List.drop_zero, List.dropLast_concat]

def sysLitBody (q : Char) (l : Str) : CST := .seq [.leaf [q], .leaf l, .leaf [q]]
@[cst_simp] theorem cstSysLit_eq (q : Char) (l : Str) : cstSysLit q l = .node N.system_literal (sysLitBody q l) := rfl
@[cst_simp] theorem sysLitBody_flatten (q : Char) (l : Str) : (sysLitBody q l).flatten = q :: (l ++ [q]) := by
  simp only [sysLitBody, cst_simp]

def pubLitBody (q : Char) (p : Str) : CST :=
  .seq [.leaf [q], if q = '"' then .node N.multipubidchar0 (.leaf p) else .leaf p, .leaf [q]]
@[cst_simp] theorem cstPubLit_eq (q : Char) (p : Str) : cstPubLit q p = .node N.pubid_literal (pubLitBody q p) := rfl
@[cst_simp] theorem pubLitBody_flatten (q : Char) (p : Str) : (pubLitBody q p).flatten = q :: (p ++ [q]) := by
  simp only [pubLitBody, cst_simp]
  split <;> simp only [cst_simp]

def extIdBody : CExtId → CST
  | .sysId w q l => .seq [.seq [.leaf kwSYSTEM, .leaf w], cstSysLit q l]
  | .pubId w qp p w2 qs l => .seq [.seq [.leaf kwPUBLIC, .leaf w], .seq [cstPubLit qp p, .seq [.leaf w2, cstSysLit qs l]]]

@[cst_simp] theorem cstExtId_eq (id : CExtId) : cstExtId id = .node N.external_id (extIdBody id) := by cases id <;> rfl

@[cst_simp] theorem absExternalId_cst (id : CExtId) : absExternalId (extIdBody id) = id.erase := by
  cases id <;> simp only [extIdBody, absExternalId, cst_simp, CExtId.erase]

def attTypeBody : CAttType → CST
  | .kw t => .leaf (printAttType t)
  | .notationTy w0 w1 f rest w2 => .node N.enumerated_type (.node N.notation_type
      (.seq [.seq [.leaf kwNOTATIONty, .leaf w0, .leaf ['('], .leaf w1], .seq [cstName f, .many (sepCsts cstName rest)], .seq [.leaf w2, .leaf [')']]]))
  | .enumeration w0 f rest w1 => .node N.enumerated_type (.node N.enumeration
      (.seq [.seq [.leaf ['('], .leaf w0], .seq [cstNmtoken f, .many (sepCsts cstNmtoken rest)], .seq [.leaf w1, .leaf [')']]]))

@[cst_simp] theorem cstAttType_eq (t : CAttType) : cstAttType t = .node N.att_type (attTypeBody t) := by cases t <;> rfl

theorem absAttType_cst (t : CAttType) (h : okAttType t = true) : absAttType (attTypeBody t) = t.erase := by
  cases t with
  | kw t => cases t <;> first | decide +kernel | cases h
  | notationTy w0 w1 f rest w2 =>
    have hk : kidsLL (sepCsts cstName rest) = rest.map fun y => (N.name, nameBody y.2.2) := kidsLL_map (fun _ => rfl) rest
    simp +decide only [attTypeBody, absAttType, cst_simp, hk, List.map_map, Function.comp_def, CAttType.erase]
  | enumeration w0 f rest w1 =>
    have hk : kidsLL (sepCsts cstNmtoken rest) = rest.map fun y => (N.nmtoken, CST.leaf y.2.2) := kidsLL_map (fun _ => rfl) rest
    simp +decide only [attTypeBody, absAttType, cstNmtoken, cst_simp, hk, List.map_map, Function.comp_def, CAttType.erase]

def defaultBody : CDefault → CST
  | .required => .leaf kwREQUIRED
  | .implied => .leaf kwIMPLIED
  | .value none q vals => .seq [.seq [], cstAttValue q vals]
  | .value (some w) q vals => .seq [.seq [.leaf kwFIXED, .leaf w], cstAttValue q vals]

@[cst_simp] theorem cstDefault_eq (d : CDefault) : cstDefault d = .node N.default_decl (defaultBody d) := by
  cases d with
  | value fixed q vals => cases fixed <;> rfl
  | _ => rfl

theorem absDefault_cst (d : CDefault) (h : okDefault d = true) : absDefault (defaultBody d) = d.erase := by
  cases d with
  | required => rfl
  | implied => rfl
  | value fixed q vals =>
    simp only [okDefault, Bool.and_eq_true, Bool.not_eq_true'] at h
    obtain ⟨⟨⟨_, hq⟩, hall⟩, _⟩ := h
    have hv := absPieces_cst q vals hall
    -- the text starts with a quote or with `#FIXED`, so with neither of the other two keywords
    cases fixed with
    | none =>
      rcases isQuote_cases hq with rfl | rfl <;>
        simp +decide only [defaultBody, absDefault, cstAttValue, cst_simp, hv, CDefault.erase, startsWith, stripPrefix, Option.isSome]
    | some w =>
      simp +decide only [defaultBody, absDefault, cstAttValue, cst_simp, hv, CDefault.erase, startsWith, stripPrefix, kwFIXED, Option.isSome]

def attDefBody (a : CAttDef) : CST :=
  .seq [.seq [.leaf a.ws0, cstQN a.name], .seq [.leaf a.ws1, cstAttType a.ty], .seq [.leaf a.ws2, cstDefault a.dflt]]
@[cst_simp] theorem cstAttDef_eq (a : CAttDef) : cstAttDef a = .node N.att_def (attDefBody a) := rfl

theorem absAttDef_cst (a : CAttDef) (h : okAttDef a = true) : absAttDef (attDefBody a) = a.erase := by
  obtain ⟨_, _, _, hty, _, hd⟩ := okAttDef_parts h
  simp +decide only [absAttDef, attDefBody, cst_simp, List.head?_cons, absAttType_cst a.ty hty, absDefault_cst a.dflt hd, CAttDef.erase]

end XmlRs.Lex
