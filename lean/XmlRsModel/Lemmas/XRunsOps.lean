import XmlRsModel.Lemmas.XRunsLex
/-! What may follow an XPath expression of a given grammar layer (`Cont`), and the operator layers: the seven productions
    `operand (ws op ws operand)*` (or, and, equality, relational, additive, multiplicative, union) are one production
    with the layer as a parameter. -/
namespace XmlRs.XLex
open XmlRs XmlRs.XPath XmlRs.Lex
open Gen.XPath

/-- first characters of the tokens that continue an expression at layer `L`: 0 or, 1 and, 2 = !=, 3 < <= > >=,
    4 + -, 5 * div mod, 7 |, 8 / //, 9 [ (predicate), 10 ( (function call) -/
def opHeads : Nat → List Char
  | 0 => ['o'] | 1 => ['a'] | 2 => ['=', '!'] | 3 => ['<', '>'] | 4 => ['+', '-'] | 5 => ['*', 'd', 'm']
  | 7 => ['|'] | 8 => ['/'] | 9 => ['['] | 10 => ['(']
  | _ => []

def allLevels : List Nat := [0, 1, 2, 3, 4, 5, 6, 7, 8, 9, 10]

def isHeadFrom (l : Nat) (c : Char) : Bool := allLevels.any fun L => decide (l ≤ L) && (opHeads L).contains c

theorem isHeadFrom_false {l : Nat} {c : Char} :
    isHeadFrom l c = false ↔ ∀ L, L ∈ allLevels → l ≤ L → (opHeads L).contains c = false := by
  simp only [isHeadFrom, List.any_eq_false, Bool.and_eq_true, decide_eq_true_eq, not_and, Bool.not_eq_true]

theorem isHeadFrom_mono {l l' : Nat} (h : l ≤ l') (c : Char) (hc : isHeadFrom l c = false) : isHeadFrom l' c = false :=
  isHeadFrom_false.mpr fun L hL hle => isHeadFrom_false.mp hc L hL (Nat.le_trans h hle)

theorem mem_levels : ∀ l, l < 11 → l ∈ allLevels := by decide

/-- what may follow an expression of layer `l`: optional white space, then the end of the input or a character that
    does not start a continuation token of a layer `≥ l`, is not `:`, and - directly behind the expression - cannot
    continue a name or a number -/
def Cont (l : Nat) (Y : Str) : Prop :=
  ∃ w T, Y = w ++ T ∧ okWs w = true ∧
    (T = [] ∨ ∃ c T', T = c :: T' ∧ P.isSpace c = false ∧ isHeadFrom l c = false ∧ c ≠ ':' ∧ (w = [] → P.isNameChar c = false))

theorem Cont.nil (l : Nat) : Cont l [] := ⟨[], [], rfl, rfl, .inl rfl⟩

theorem Cont.of_head (l : Nat) {w : Str} (hw : okWs w = true) {c : Char} (h1 : P.isSpace c = false) (h2 : isHeadFrom l c = false)
    (h3 : c ≠ ':') (h4 : w = [] → P.isNameChar c = false) (R : Str) : Cont l (w ++ c :: R) :=
  ⟨w, c :: R, rfl, hw, .inr ⟨c, R, rfl, h1, h2, h3, h4⟩⟩

theorem Cont.mono {l l' : Nat} (h : l ≤ l') {Y : Str} (hY : Cont l Y) : Cont l' Y := by
  obtain ⟨w, T, rfl, hw, rfl | ⟨c, T', rfl, h1, h2, h3, h4⟩⟩ := hY
  · exact ⟨w, [], rfl, hw, .inl rfl⟩
  · exact .of_head l' hw h1 (isHeadFrom_mono h c h2) h3 h4 T'

theorem Cont.stops_nc {l : Nat} {Y : Str} (hY : Cont l Y) : Stops P.isNameChar Y := by
  obtain ⟨w, T, rfl, hw, hT⟩ := hY
  refine .ws nc_space hw fun hw0 => ?_
  rcases hT with rfl | ⟨c, T', rfl, _, _, _, h4⟩
  · exact .nil
  · exact .cons _ (h4 hw0)

theorem Cont.after_of {l : Nat} {Y : Str} (hY : Cont l Y) {p : Char → Bool} (hp : ∀ c, isHeadFrom l c = false → c ≠ ':' → p c = false) :
    After p Y := by
  obtain ⟨w, T, rfl, hw, rfl | ⟨c, T', rfl, h1, h2, h3, _⟩⟩ := hY
  · exact ⟨w, [], rfl, hw, Stops.nil, Stops.nil⟩
  · exact .of_head hw h1 (hp c h2 h3) T'

theorem Cont.after {l L : Nat} {Y : Str} (hY : Cont l Y) (hle : l ≤ L) (hL : L ≤ 10) : After (fun c => (opHeads L).contains c) Y :=
  hY.after_of fun _ h2 _ => isHeadFrom_false.mp h2 L (mem_levels L (Nat.lt_succ_of_le hL)) hle

theorem Cont.after_colon {l : Nat} {Y : Str} (hY : Cont l Y) : After (· == ':') Y :=
  hY.after_of fun _ _ h3 => beq_false_of_ne h3

/-- for a layer that is continued by one character (`/`, `[`, `(`) -/
theorem Cont.after_char {l L : Nat} {Y : Str} (hY : Cont l Y) (hle : l ≤ L) (hL : L ≤ 10) {x : Char} (hx : opHeads L = [x]) : After (· == x) Y :=
  (hY.after hle hL).mono fun c hc => by rw [hx] at hc; simpa using hc

theorem tag_fails_of_heads {L : Nat} {T : Str} (h : Stops (fun c => (opHeads L).contains c) T) (c : Char) (t : Str)
    (hc : (opHeads L).contains c = true) : Runs env (.tag (c :: t)) T .fail :=
  runs_tag_fail_head (stops_not_char h hc)

theorem tag_fails_ne {ev : Env} {c d : Char} (h : c ≠ d) {t r : Str} : Runs ev (.tag (c :: t)) (d :: r) .fail :=
  Runs.tag_fail (strip_cons_ne t r h)

/-- a longer token that begins like a shorter one fails where only the shorter stands: `<=` at `<`, `//` at `/`, `..` at `.` -/
theorem tag_fails_second {ev : Env} (a : Char) {b : Char} (t : Str) {Y : Str} (h : Stops (· == b) Y) : Runs ev (.tag (a :: b :: t)) (a :: Y) .fail :=
  Runs.tag_fail (by rw [stripPrefix, if_pos rfl]; exact strip_of_stops t h)

theorem cont_of_closer (l : Nat) {w : Str} (hw : okWs w = true) (c : Char) (hc : c = ')' ∨ c = ']' ∨ c = ',') (R : Str) :
    Cont l (w ++ c :: R) := by
  have h0 := isHeadFrom_mono (Nat.zero_le l) c
  rcases hc with rfl | rfl | rfl <;> exact .of_head l hw (by decide) (h0 (by decide)) (by decide) (fun _ => by decide) R

/-! Three tables over the binary layers 0..5 (or, and, equality, relational, additive, multiplicative): the nonterminal
    of the layer (`levelNt`), of its operands (`operandNt`), the grammar of its operators (`opG`).  `ntOfLevel`, `opG'` and
    `operandNt'` are the same tables continued to the union layer 7 (and `ntOfLevel` to all of 6..10); they agree on 0..5
    (`ntOfLevel_low`), and `operandNt' l` is `ntOfLevel (l + 1)` (`operandNt'_eq`).  `cstX` labels its nodes with `levelNt`,
    the statements about runs speak of `ntOfLevel`. -/
def levelNt : Nat → Nat
  | 0 => N.or_expr | 1 => N.and_expr | 2 => N.equality_expr | 3 => N.relation_expr | 4 => N.additive_expr | _ => N.multiplicative_expr

def operandNt : Nat → Nat
  | 0 => N.and_expr | 1 => N.equality_expr | 2 => N.relation_expr | 3 => N.additive_expr | 4 => N.multiplicative_expr | _ => N.unary_expr

def opG : Nat → G
  | 0 => G.tag ['o', 'r']
  | 1 => G.tag ['a', 'n', 'd']
  | 2 => G.alt [G.tag ['='], G.tag ['!', '=']]
  | 3 => G.alt [G.tag ['<', '='], G.tag ['>', '='], G.tag ['<'], G.tag ['>']]
  | 4 => G.alt [G.tag ['+'], G.tag ['-']]
  | _ => G.alt [G.tag ['*'], G.tag ['d', 'i', 'v'], G.tag ['m', 'o', 'd']]

/-- the nonterminal of a grammar layer: 0..5 the binary operators, 6 unary, 7 union, 8 path, 9 filter, 10 primary -/
def ntOfLevel : Nat → Nat
  | 6 => N.unary_expr | 7 => N.union_expr | 8 => N.path_expr | 9 => N.filter_expr | 10 => N.primary_expr
  | l => levelNt l

def opG' (l : Nat) : G := if l = 7 then G.tag ['|'] else opG l
def operandNt' (l : Nat) : Nat := if l = 7 then N.path_expr else operandNt l
def iterG (l : Nat) : G := G.seq [G.seq [G.cls0 P.isSpace, opG' l, G.cls0 P.isSpace], G.nt (operandNt' l)]

theorem layer_prod : ∀ l, l ≤ 5 ∨ l = 7 → env (ntOfLevel l) = G.seq [G.nt (ntOfLevel (l + 1)), G.many0 (iterG l)]
  | 0, _ => rfl | 1, _ => rfl | 2, _ => rfl | 3, _ => rfl | 4, _ => rfl | 5, _ => rfl | 7, _ => rfl
  | 6, h => by omega
  | n + 8, h => by omega

theorem ntOfLevel_low : ∀ l, l ≤ 5 → ntOfLevel l = levelNt l
  | 0, _ => rfl | 1, _ => rfl | 2, _ => rfl | 3, _ => rfl | 4, _ => rfl | 5, _ => rfl
  | n + 6, h => by omega

theorem runs_layer {l : Nat} (hl : l ≤ 5 ∨ l = 7) {I R Y : Str} {c : CST} {ks : List CST} (h1 : Runs env (.nt (ntOfLevel (l + 1))) I (.ok c R))
    (h2 : RunsMany env (iterG l) R (.ok ks Y)) : Runs env (.nt (ntOfLevel l)) I (.ok (.node (ntOfLevel l) (.seq [c, .many ks])) Y) :=
  Runs.nt_of (layer_prod l hl) (Runs.seq2 h1 (Runs.many h2))

theorem operandNt'_eq : ∀ l, l ≤ 5 ∨ l = 7 → operandNt' l = ntOfLevel (l + 1)
  | 0, _ => rfl | 1, _ => rfl | 2, _ => rfl | 3, _ => rfl | 4, _ => rfl | 5, _ => rfl | 7, _ => rfl
  | 6, h => by omega
  | n + 8, h => by omega

/-- `hY`: after `<` and `>` no `=` may follow -/
theorem runs_op (op : BinOp) (Y : Str) (hY : Stops (· == '=') Y) :
    Runs env (opG' (opLevel op)) (opText op ++ Y) (.ok (.leaf (opText op)) Y) := by
  cases op
  case or | and | union => exact Runs.tag_ok _ _
  case eq | le | add | mul => exact Runs.alt (RunsAlt.hit (Runs.tag_ok _ _))
  case ne | sub | div | ge => exact Runs.alt (RunsAlt.skip (tag_fails_ne (by decide)) (RunsAlt.hit (Runs.tag_ok _ _)))
  case mod => exact Runs.alt (RunsAlt.skip (tag_fails_ne (by decide)) (RunsAlt.skip (tag_fails_ne (by decide)) (RunsAlt.hit (Runs.tag_ok _ _))))
  case lt => exact Runs.alt (RunsAlt.skip (tag_fails_second _ _ hY) (RunsAlt.skip (tag_fails_ne (by decide)) (RunsAlt.hit (Runs.tag_ok _ _))))
  case gt => exact Runs.alt (RunsAlt.skip (tag_fails_ne (by decide)) (RunsAlt.skip (tag_fails_second _ _ hY) (RunsAlt.skip (tag_fails_ne (by decide)) (RunsAlt.hit (Runs.tag_ok _ _)))))

theorem op_fails : ∀ l, l ≤ 5 ∨ l = 7 → ∀ {T : Str}, Stops (fun c => (opHeads l).contains c) T → Runs env (opG' l) T .fail
  | 0, _, _, h => tag_fails_of_heads h 'o' _ rfl
  | 1, _, _, h => tag_fails_of_heads h 'a' _ rfl
  | 2, _, _, h => Runs.alt (RunsAlt.skip (tag_fails_of_heads h '=' _ rfl) (RunsAlt.skip (tag_fails_of_heads h '!' _ rfl) (RunsAlt.nil _)))
  | 3, _, _, h => Runs.alt (RunsAlt.skip (tag_fails_of_heads h '<' _ rfl) (RunsAlt.skip (tag_fails_of_heads h '>' _ rfl)
      (RunsAlt.skip (tag_fails_of_heads h '<' _ rfl) (RunsAlt.skip (tag_fails_of_heads h '>' _ rfl) (RunsAlt.nil _)))))
  | 4, _, _, h => Runs.alt (RunsAlt.skip (tag_fails_of_heads h '+' _ rfl) (RunsAlt.skip (tag_fails_of_heads h '-' _ rfl) (RunsAlt.nil _)))
  | 5, _, _, h => Runs.alt (RunsAlt.skip (tag_fails_of_heads h '*' _ rfl) (RunsAlt.skip (tag_fails_of_heads h 'd' _ rfl)
      (RunsAlt.skip (tag_fails_of_heads h 'm' _ rfl) (RunsAlt.nil _))))
  | 7, _, _, h => tag_fails_of_heads h '|' _ rfl
  | 6, hl, _, _ => by omega
  | n + 8, hl, _, _ => by omega

theorem iter_fails (l : Nat) (hl : l ≤ 5 ∨ l = 7) {Y : Str} (hY : Cont l Y) : Runs env (iterG l) Y .fail :=
  Runs.seq_fail_head (Runs.seq_fail ((hY.after (Nat.le_refl l) (by omega)).fails (fun _ => op_fails l hl) _))

def opHead : BinOp → Char
  | .or => 'o' | .and => 'a' | .eq => '=' | .ne => '!' | .lt => '<' | .le => '<' | .gt => '>' | .ge => '>'
  | .add => '+' | .sub => '-' | .mul => '*' | .div => 'd' | .mod => 'm' | .union => '|'

theorem opText_head (op : BinOp) : ∃ t, opText op = opHead op :: t := by cases op <;> exact ⟨_, rfl⟩

theorem opHead_props (op : BinOp) : P.isSpace (opHead op) = false ∧ opHead op ≠ ':' ∧ (opNeedsSpace op = false → P.isNameChar (opHead op) = false) ∧
    isHeadFrom (opLevel op + 1) (opHead op) = false := by
  cases op <;> decide

theorem cont_of_op (op : BinOp) (l : Nat) (h : opLevel op < l) {w1 : Str} (hw : okWs w1 = true)
    (hsp : opNeedsSpace op = true → w1 ≠ []) (R : Str) : Cont l (w1 ++ (opText op ++ R)) := by
  obtain ⟨t, ht⟩ := opText_head op
  obtain ⟨p1, p2, p3, p4⟩ := opHead_props op
  rw [ht]
  refine .of_head l hw p1 (isHeadFrom_mono h _ p4) p2 (fun hw1 => ?_) _
  cases hn : opNeedsSpace op with
  | false => exact p3 hn
  | true => exact absurd hw1 (hsp hn)

end XmlRs.XLex
