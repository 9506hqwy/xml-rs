import XmlRsModel.Lemmas.AbsDoctype
/-! `absDocument (tree of a rendering) = the abstract document`, and the size/depth facts `parseDoc` asks for. -/
namespace XmlRs.Lex
open XmlRs Gen.Xml XmlRs.Names

def miscBody : CMisc → CST
  | .comment s => cstComment s
  | .pi t b => cstPI t b
  | .ws w => .leaf w

@[cst_simp] theorem cstMisc_eq (m : CMisc) : cstMisc m = .node N.misc (miscBody m) := by cases m <;> rfl

@[cst_simp] theorem absMisc_comment (b : CST) : absMisc (.node N.comment b) = some (.comment (absComment b)) := rfl
@[cst_simp] theorem absMisc_pi (b : CST) : absMisc (.node N.pi b) = match absPI b with | (t, d) => some (.pi t d) := rfl

theorem absMisc_cst (m : CMisc) (h : okMisc m = true) : absMisc (miscBody m) = m.erase := by
  cases m with
  | comment s => simp only [miscBody, cst_simp, absComment_cst s h, CMisc.erase]
  | pi t b => simp only [miscBody, cst_simp, CMisc.erase]
  | ws w => rfl

theorem filterMap_misc : ∀ (ms : List CMisc), ms.all okMisc = true →
    (ms.map miscBody).filterMap absMisc = ms.filterMap CMisc.erase
  | [], _ => rfl
  | m :: ms, h => by
    simp only [List.all_cons, Bool.and_eq_true] at h
    simp only [List.map_cons, List.filterMap_cons, absMisc_cst m h.1, filterMap_misc ms h.2]

section
variable (b : CST) (rest : List (Nat × CST))
theorem absProlog_misc_cons : absProlog ((N.misc, b) :: rest) =
    match absProlog rest with
    | .error e => .error e
    | .ok xs => .ok (match absMisc b with | some i => i :: xs | none => xs) := rfl
theorem absProlog_doctype_cons : absProlog ((N.doctype_decl, b) :: rest) =
    match absProlog rest with
    | .error e => .error e
    | .ok xs => match absDoctype b with | .error e => .error e | .ok d => .ok (.doctype d :: xs) := rfl
theorem absProlog_decl_cons : absProlog ((N.xml_decl, b) :: rest) = absProlog rest := by
  rw [absProlog]; cases absProlog rest <;> rfl
end

theorem absProlog_misc_append : ∀ (ms : List CMisc) (rest : List (Nat × CST)) (xs : List TopItem), ms.all okMisc = true →
    absProlog rest = .ok xs → absProlog (ms.map (fun m => (N.misc, miscBody m)) ++ rest) = .ok (ms.filterMap CMisc.erase ++ xs)
  | [], rest, xs, _, hr => hr
  | m :: ms, rest, xs, h, hr => by
    simp only [List.all_cons, Bool.and_eq_true] at h
    simp only [List.map_cons, List.cons_append, absProlog_misc_cons, absProlog_misc_append ms rest xs h.2 hr, absMisc_cst m h.1,
      List.filterMap_cons]
    cases m.erase <;> rfl

theorem absProlog_misc : ∀ (ms : List CMisc), ms.all okMisc = true →
    absProlog (ms.map (fun m => (N.misc, miscBody m))) = .ok (ms.filterMap CMisc.erase) := fun ms h => by
  simpa only [List.append_nil] using absProlog_misc_append ms [] [] h rfl

/-! ### the size of the tree bounds the nesting depth (fuel of `absElement` at the root) -/
mutual
theorem size_item : ∀ i : CItem, okItem i = true → i.depth ≤ (cstItemNode i).size
  | .elem n as w e ks w' => fun hok => by
    obtain ⟨_, _, _, _, h5, h6, _⟩ := okElem_parts hok
    have ih := size_iters ks h6
    cases e with
    | true => rw [h5 rfl]; exact Nat.le_add_left ..
    | false =>
      simp only [CItem.depth, cstItemNode, Bool.false_eq_true, if_false, CST.size, sizeL]
      omega
  | .text _ | .charRef _ _ | .entRef _ | .cdata _ | .pi _ _ | .comment _ => fun _ => Nat.zero_le _
theorem size_iters : ∀ l : List CItem, okItems l = true → depthL l ≤ sizeL (cstIters l)
  | [] => fun _ => Nat.le_refl _
  | i :: rest => fun hok => by
    obtain ⟨hi, hrest⟩ := okItems_cons hok
    have ih := size_iters rest hrest
    have h1 := size_item i hi
    rw [depthL_cons]
    cases hti : isTextItem i with
    | true =>
      obtain ⟨s, rfl⟩ := isTextItem_true hti
      simpa only [CItem.depth, Nat.zero_max, cstIters] using ih
    | false =>
      simp only [cstIters_nontext hti, sizeL, CST.size]
      omega
end

def declBody (x : CDecl) : CST :=
  .seq [.leaf ['<', '?', 'x', 'm', 'l'], .seq [cstVersionInfo x, cstEnc x.enc, cstSd x.sd], .seq [.leaf x.wsEnd, .leaf ['?', '>']]]

@[cst_simp] theorem cstDecl_eq (x : CDecl) : cstDecl x = .node N.xml_decl (declBody x) := rfl

theorem decl_version (x : CDecl) :
    ((findL N.version_info (declBody x).kidsL).bind fun v => (findL N.version_num v.kidsL).map (·.flatten)) = some ('1' :: '.' :: x.minor) := by
  simp +decide only [declBody, cstVersionInfo, cstEq, cst_simp, Option.bind_some, Option.map_some]

theorem decl_encoding (x : CDecl) :
    ((findL N.encoding_decl (declBody x).kidsL).bind fun v => (findL N.enc_name v.kidsL).map (·.flatten)) = x.enc.map (fun e => e.2.2.2.2) := by
  obtain ⟨_, _, _, _, _, enc, sd, _⟩ := x
  rcases enc with _ | ⟨w, e1, e2, q, name⟩
  · rcases sd with _ | ⟨w, e1, e2, q, b⟩ <;> simp +decide only [declBody, cstVersionInfo, cstEnc, cstSd, cst_simp, Option.bind_none, Option.map_none]
  · simp +decide only [declBody, cstVersionInfo, cstEnc, cstEq, cst_simp, Option.bind_some, Option.map_some, encAlpha, encRest, spanP_append]

theorem hasSub_no_head (c : Char) (t : Str) : ∀ s : Str, c ∉ s → hasSub (c :: t) s = false
  | [], _ => rfl
  | d :: ds, h => by
    have hd : c ≠ d := fun e => h (by rw [e]; exact List.mem_cons_self)
    rw [C15.hasSub_cons, hasSub_no_head c t ds fun hm => h (List.mem_cons_of_mem d hm), strip_cons_ne t ds hd]
    rfl

theorem hasSub_mid (pat a b : Str) : hasSub pat (a ++ (pat ++ b)) = true := by
  refine C15.hasSub_append_left pat a _ (C15.hasSub_append_right pat pat b ?_)
  cases pat with
  | nil => rfl
  | cons c t => rw [C15.hasSub_cons, C15.stripPrefix_self]; rfl

theorem ws_no_y {w : Str} (h : okWs w = true) : 'y' ∉ w := by
  intro hm
  have := (List.all_eq_true.mp h) 'y' hm
  revert this; decide

/-- `standalone` is read off the text of the whole pseudo-attribute: `yes` occurs in it only as the value -/
theorem decl_standalone (x : CDecl) (h : okDecl x = true) :
    ((findL N.sd_decl (declBody x).kidsL).map fun v => hasSub ['y', 'e', 's'] v.flatten) = x.sd.map (fun e => e.2.2.2.2) := by
  -- of `okDecl_parts`, the conjunct about `sd`
  have hsd := (okDecl_parts h).2.2.2.2.2.2.2.2.1
  obtain ⟨_, _, _, _, _, enc, sd, _⟩ := x
  have key : (findL N.sd_decl (cstSd sd).kidsL).map (fun v => hasSub ['y', 'e', 's'] v.flatten) = sd.map (fun e => e.2.2.2.2) := by
    rcases sd with _ | ⟨w, e1, e2, q, b⟩
    · rfl
    obtain ⟨_, a2, a3, a4, a5⟩ := hsd w e1 e2 q b rfl
    simp +decide only [cstSd, cstEq, cst_simp, Option.map_some, Option.some.injEq]
    cases b with
    | true =>
      have := hasSub_mid ['y', 'e', 's'] (w ++ (kwStandalone ++ (e1 ++ '=' :: (e2 ++ [q])))) [q]
      simpa only [List.append_assoc, List.cons_append, List.nil_append, yesNo, if_true] using this
    | false =>
      apply hasSub_no_head
      have hq : q ≠ 'y' := by rcases isQuote_cases a5 with rfl | rfl <;> decide
      simp +decide only [List.mem_append, List.mem_cons, ws_no_y a2, ws_no_y a3, ws_no_y a4, yesNo, kwStandalone, hq.symm, or_self,
        if_false, not_false_eq_true]
  rcases enc with _ | ⟨w, e1, e2, q, name⟩ <;>
    simpa +decide only [declBody, cstVersionInfo, cstEnc, cst_simp] using key

def docBody (d : CDoc) : CST :=
  .seq [.node N.prolog (.seq [cstDeclOpt d.decl, .many (d.before.map cstMisc), cstDoctypePart d.doctype]), cstItemNode d.root, .many (d.after.map cstMisc)]

theorem cstDoc_eq (d : CDoc) : cstDoc d = .node N.document (docBody d) := rfl

theorem kidsLL_misc (ms : List CMisc) : kidsLL (ms.map cstMisc) = ms.map fun m => (N.misc, miscBody m) :=
  kidsLL_map (fun m => by rw [cstMisc_eq]; rfl) ms

def prologTail (d : CDoc) : List (Nat × CST) := d.before.map (fun m => (N.misc, miscBody m)) ++ (cstDoctypePart d.doctype).kidsL

theorem doctypePart_kidsL (dt : CDoctype) (ms : List CMisc) :
    (cstDoctypePart (some (dt, ms))).kidsL = (N.doctype_decl, doctypeBody dt) :: ms.map fun m => (N.misc, miscBody m) := by
  simp only [cstDoctypePart, cst_simp, kidsLL_misc]

theorem absProlog_tail (d : CDoc) (h : d.ok = true) : absProlog (prologTail d) = .ok (d.before.filterMap CMisc.erase ++ doctypeErase d.doctype) := by
  apply absProlog_misc_append _ _ _ (okDoc_parts h).2.1
  cases hd : d.doctype with
  | none => rfl
  | some v =>
    obtain ⟨dt, ms⟩ := v
    obtain ⟨b1, b2, _⟩ := okDoc_doctype h dt ms hd
    simp only [doctypePart_kidsL, absProlog_doctype_cons, absProlog_misc ms b2, absDoctype_cst dt b1, doctypeErase]

theorem findL_prologTail (d : CDoc) : findL N.xml_decl (prologTail d) = none := by
  have a : ∀ ms : List CMisc, findL N.xml_decl (ms.map fun m => (N.misc, miscBody m)) = none := findL_map_ne (by decide) _
  rw [prologTail, findL_append, a]
  rcases d.doctype with _ | ⟨dt, ms⟩
  · rfl
  · simp +decide only [doctypePart_kidsL, cst_simp, a, Option.or_none]

theorem absDocument_cst (d : CDoc) (h : d.ok = true) : absDocument (docBody d) = .ok d.erase := by
  obtain ⟨h1, _, _, h4, h5, h6, _⟩ := okDoc_parts h
  have hroot := absElement_root d.root h4 h5 ((elemBody d.root).size + 1) <| by
    have := size_item d.root h5
    rw [cstItemNode_elem d.root h4] at this
    exact this
  have hpro := absProlog_tail d h
  have hnone := findL_prologTail d
  simp only [prologTail] at hpro hnone
  simp +decide only [absDocument, docBody, cstItemNode_elem d.root h4, cst_simp, kidsLL_misc, filterMap_misc d.after h6, hroot]
  cases hd : d.decl with
  | none => simp only [cstDeclOpt, cst_simp, hnone, hpro, Option.bind_none, CDoc.erase, hd, Option.map_none]
  | some x =>
    have hv := decl_version x
    have he := decl_encoding x
    have hs := decl_standalone x (h1 x hd)
    simp +decide only [cstDeclOpt, cst_simp, absProlog_decl_cons, hpro, Option.bind_some]
    rw [hv, he, hs]
    simp only [CDoc.erase, hd, Option.map_some, Option.bind_some, List.cons_append, List.nil_append]

theorem docBody_depth (d : CDoc) : (docBody d).elemDepth ≤ d.root.depth ∧ (docBody d).ntDepth N.children = doctypeDepth d.doctype := by
  have d3 := depth_item d.root
  have d0 : noEl (cstDeclOpt d.decl) = true := by
    rcases d.decl with _ | x
    · rfl
    · have he : noEl (cstEnc x.enc) = true := by
        rcases x.enc with _ | ⟨w, e1, e2, q, name⟩
        · rfl
        · simp +decide only [cstEnc, depth_simp]
      have hs : noEl (cstSd x.sd) = true := by
        rcases x.sd with _ | ⟨w, e1, e2, q, b⟩
        · rfl
        · simp +decide only [cstSd, depth_simp]
      simp +decide only [cstDeclOpt, cstDecl, cstVersionInfo, depth_simp, he, hs]
  have d4 : (cstDoctypePart d.doctype).elemDepth = 0 ∧ (cstDoctypePart d.doctype).ntDepth N.children = doctypeDepth d.doctype := by
    rcases d.doctype with _ | ⟨dt, ms⟩
    · exact ⟨rfl, rfl⟩
    · have hdt := doctype_depth dt
      simp only [cstDoctypePart, doctypeDepth, depth_simp, noElem_depth _ hdt.1, hdt.2]
  simp +decide only [docBody, depth_simp, d0, d3.2, d4]
  exact d3.1

end XmlRs.Lex
