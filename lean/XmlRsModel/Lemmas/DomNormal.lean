import XmlRsModel.Lemmas.DomNorm
import XmlRsModel.Thm.C15
/-! `Element.normalize` reaches a normal form: below the element (and in its attribute values) no Text node is empty and
    no two Text nodes stand side by side whose data could be written as one. -/
namespace XmlRs.Dom
open List

/-- character data that is not valid stays invalid however it is continued -/
theorem validText_append_false (x y : Str) (h : validText x = false) : validText (x ++ y) = false := by
  rw [C15.validText_iff] at h ⊢
  simp only [Bool.and_eq_false_iff, Bool.not_eq_false', List.all_append] at h ⊢
  rcases h with h | h
  · exact .inl (by simp [h])
  · exact .inr (C15.hasSub_append_right _ x y h)

mutual
/-- below the node every element is in normal form: its attribute values and its child list -/
def isNormal : Node → Bool
  | .mk _ k _ as ks => match k with | .elem _ => normalA as && normalL none ks | _ => true
def normalA : List Node → Bool
  | [] => true
  | (.mk _ _ _ _ ks) :: r => normalL none ks && normalA r
/-- `prevData`: the data of the node just before, if that is a Text node.  No Text node is empty; a Text node that follows a
    Text node could not have been appended to it (the two together are not character data) -/
def normalL (prevData : Option Str) : List Node → Bool
  | [] => true
  | (.mk j k d as ks) :: r =>
    match k with
    | .text => !d.isEmpty && (match prevData with | some p => !validText (p ++ d) | none => true) && normalL (some d) r
    | .elem _ => isNormal (.mk j k d as ks) && normalL none r
    | _ => normalL none r
end

/-- what is known about the pending Text node of `normList`, relative to the data `pd` of the Text node emitted before it -/
def PrevOk (prev : Option Node) (pd : Option Str) : Prop :=
  match prev with
  | none => pd = none
  | some p => p.kind = .text ∧ p.data ≠ [] ∧ ∀ q, pd = some q → validText (q ++ p.data) = false

theorem normalL_text (pd : Option Str) (p : Node) (r : List Node) (hk : p.kind = .text) :
    normalL pd (p :: r) = (!p.data.isEmpty && (match pd with | some q => !validText (q ++ p.data) | none => true) && normalL (some p.data) r) := by
  cases p with
  | mk j k d as ks => simp only [Node.kind] at hk; subst hk; simp [normalL, Node.data]

theorem normalL_prev (pd : Option Str) (p : Node) (r : List Node) (h : PrevOk (some p) pd) :
    normalL pd (p :: r) = normalL (some p.data) r := by
  obtain ⟨hk, hne, hq⟩ := h
  rw [normalL_text pd p r hk]
  have h1 : p.data.isEmpty = false := by cases hd : p.data with | nil => exact absurd hd hne | cons a b => rfl
  cases pd with
  | none => simp [h1]
  | some q => simp [h1, hq q rfl]

theorem norm_normal :
    (∀ n, isNormal (normNode n).1 = true) ∧
    (∀ prev l, ∀ pd, PrevOk prev pd → normalL pd (normList prev l).1 = true) ∧
    (∀ l, normalA (normAttrs l).1 = true) := by
  have none_ok : PrevOk none none := rfl
  -- a pending Text node is emitted in front of what follows
  have emit : ∀ (prev : Option Node) pd, PrevOk prev pd → ∀ l, (∀ pd', normalL pd' l = true) →
      normalL pd (prev.toList ++ l) = true := by
    intro prev pd hp l hl
    cases prev with
    | none => exact hl pd
    | some p => simp only [Option.toList, List.cons_append, List.nil_append]; rw [normalL_prev pd p _ hp]; exact hl _
  apply normNode.mutual_induct
  · intro j d as ks nm h1 h2
    rw [normNode_elem]; simp only [isNormal, h1, h2 none none_ok, Bool.and_self]
  · intro j d as ks k hk
    rw [normNode_other hk]
    cases k <;> first | rfl | exact absurd rfl (hk _)
  · intro prev pd hp
    rw [normList_nil]
    simpa using emit prev pd hp [] (fun _ => rfl)
  · intro prev j d as ks r hd ih pd hp
    rw [normList_empty hd]; exact ih pd hp
  · intro j d as ks r hd p hv ih pd hp
    obtain ⟨hk, hpne, hq⟩ := hp
    rw [normList_merge hd hv]
    refine ih pd ⟨by cases p; exact hk, ?_, fun q hq' => ?_⟩
    · cases p; simp only [Node.withData, Node.data]; intro h0; exact hpne (List.append_eq_nil_iff.mp h0).1
    · have h2 := validText_append_false (q ++ p.data) d (hq q hq')
      cases p; simpa only [Node.withData, Node.data, List.append_assoc] using h2
  · intro j d as ks r hd p hv ih pd hp
    -- `p` is emitted, the node becomes the pending one
    rw [normList_cut hd hv, normalL_prev pd p _ hp]
    exact ih (some p.data) ⟨rfl, fun h0 => hd (by rw [show d = [] from h0]; rfl), fun q hq' => by
      cases hq'; simpa only [Node.data, Bool.not_eq_true] using hv⟩
  · intro j d as ks r hd ih pd hp
    cases (hp : pd = none)
    rw [normList_first hd]
    exact ih none ⟨rfl, fun h0 => hd (by rw [show d = [] from h0]; rfl), nofun⟩
  · intro prev j d as ks r nm ih1 ih2 pd hp
    rw [normList_elem]
    refine emit prev pd hp _ fun pd' => ?_
    rw [normNode_elem] at ih1 ⊢
    simp only [normalL, ih1, ih2 none none_ok, Bool.and_self]
  · intro prev j k d as ks r hk1 hk2 ih pd hp
    rw [normList_other hk1 hk2]
    refine emit prev pd hp _ fun pd' => ?_
    cases k <;> first | exact absurd rfl hk1 | exact absurd rfl (hk2 _) | simp only [normalL, ih none none_ok]
  · rw [normAttrs_nil]; rfl
  · intro j k d as ks r ih1 ih2
    rw [normAttrs_cons]; simp only [normalA, ih1 none none_ok, ih2, Bool.and_self]

theorem normNode_normal : (n : Node) → isNormal (normNode n).1 = true :=
  norm_normal.1
theorem normAttrs_normal : (l : List Node) → normalA (normAttrs l).1 = true :=
  norm_normal.2.2
theorem normList_normal : (prev : Option Node) → (pd : Option Str) → PrevOk prev pd → (l : List Node) →
    normalL pd (normList prev l).1 = true :=
  fun prev pd hp l => norm_normal.2.1 prev l pd hp

end XmlRs.Dom
