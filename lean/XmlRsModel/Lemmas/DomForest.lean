import XmlRsModel.Dom
/-! Lemmas about the forest of DOM trees: how `findIn`, `removeIn`, `updateIn` act on the pre-order
    list of node ids.  Everything is phrased with `List.count` so that the bookkeeping is linear
    arithmetic (`omega`): a multiset equation `A ++ lost ~ B ++ extra` reads
    `∀ a, count a A + count a lost = count a B + count a extra`.

    The lookups treat attributes and children alike, so a fact about them is proved for forests, by
    `forest_induct`: the first tree's root, the forest `as ++ ks` below it, the trees after it.  The
    statement for a single tree is the case of the forest `[t]`.  What `findInL` returns and what `removeInL`
    takes out are subtrees (`isSubL`): that a measure of a node is bounded by that of the forest around it is said
    of subtrees (`isSubL_cnt`, and `isSubL_height`, `isSubL_allQ`, `isSubL_inside` where those measures are). -/
namespace XmlRs.Dom
open List

theorem idsOfL_append (a b : List Node) : idsOfL (a ++ b) = idsOfL a ++ idsOfL b := by
  induction a with
  | nil => simp [idsOfL]
  | cons n r ih => simp [idsOfL, ih]

theorem idsOfL_singleton (n : Node) : idsOfL [n] = idsOf n := by simp [idsOfL]

/-- number of occurrences of id `a` in a tree / a forest -/
abbrev cnt (a : Nat) (t : Node) : Nat := count a (idsOf t)
abbrev cntL (a : Nat) (l : List Node) : Nat := count a (idsOfL l)

theorem cnt_mk (a j : Nat) (k : Kind) (d : Str) (as ks : List Node) :
    cnt a (.mk j k d as ks) = (if j == a then 1 else 0) + cntL a as + cntL a ks := by
  simp only [cnt, cntL, idsOf, count_cons, count_append]; omega

theorem cntL_nil (a : Nat) : cntL a [] = 0 := by simp [cntL, idsOfL]

theorem cntL_cons (a : Nat) (n : Node) (r : List Node) : cntL a (n :: r) = cnt a n + cntL a r := by
  simp [cnt, cntL, idsOfL, count_append]

theorem cntL_append (a : Nat) (x y : List Node) : cntL a (x ++ y) = cntL a x + cntL a y := by
  simp [cntL, idsOfL_append, count_append]

theorem cntL_singleton (a : Nat) (t : Node) : cntL a [t] = cnt a t := by rw [cntL, idsOfL_singleton]

variable {i j a : Nat} {k : Kind} {d : Str} {as as' ks r : List Node} {n n' x : Node}

theorem cnt_mk' : cnt a (.mk j k d as ks) = (if j == a then 1 else 0) + cntL a (as ++ ks) := by
  rw [cnt_mk, cntL_append, Nat.add_assoc]

theorem cnt_mk_self : cnt j (.mk j k d as ks) = 1 + cntL j (as ++ ks) := by
  rw [cnt_mk', beq_self_eq_true, if_pos rfl]

theorem cnt_mk_ne (h : j ≠ a) : cnt a (.mk j k d as ks) = cntL a (as ++ ks) := by
  rw [cnt_mk', if_neg (by simpa using h), Nat.zero_add]

theorem cntL_cons_mk :
    cntL a (.mk j k d as ks :: r) = (if j == a then 1 else 0) + cntL a (as ++ ks) + cntL a r := by
  rw [cntL_cons, cnt_mk']

theorem cnt_id_pos (t : Node) : 0 < cnt t.id t := by
  cases t with
  | mk j k d as ks => rw [Node.id, cnt_mk_self]; omega

theorem id_ne_of_cnt_zero {a : Nat} {t : Node} (h : cnt a t = 0) : t.id ≠ a :=
  fun e => by have := cnt_id_pos t; rw [e] at this; omega

theorem mem_ids_iff (a : Nat) (t : Node) : a ∈ idsOf t ↔ 0 < cnt a t := by
  simp [cnt, count_pos_iff]

theorem mem_idsL_iff (a : Nat) (l : List Node) : a ∈ idsOfL l ↔ 0 < cntL a l := by
  simp [cntL, count_pos_iff]

/-- induction on forests: every forest with fewer nodes than `t :: r` may be assumed done; offered are
    the attributes of `t`, its children, both together, and `r` -/
theorem forest_induct {Q : List Node → Prop} (nil : Q [])
    (cons : ∀ j k d as ks r, Q as → Q ks → Q (as ++ ks) → Q r → Q (.mk j k d as ks :: r)) : ∀ l, Q l := by
  intro l
  generalize hn : (idsOfL l).length = n
  induction n using Nat.strongRecOn generalizing l with
  | _ n ih =>
    match l, hn with
    | [], _ => exact nil
    | .mk j k d as ks :: r, hn =>
      simp only [idsOfL, idsOf, length_cons, length_append] at hn
      exact cons j k d as ks r (ih _ (by omega) as rfl) (ih _ (by omega) ks rfl)
        (ih _ (by rw [idsOfL_append, length_append]; omega) _ rfl) (ih _ (by omega) r rfl)

/-! ### pairwise distinct ids are inherited by the parts of a forest -/
theorem distinct_head (h : ∀ a, cntL a (n :: r) ≤ 1) (a : Nat) : cnt a n ≤ 1 := by
  have := h a; rw [cntL_cons] at this; omega

theorem distinct_tail (h : ∀ a, cntL a (n :: r) ≤ 1) (a : Nat) : cntL a r ≤ 1 := by
  have := h a; rw [cntL_cons] at this; omega

theorem distinct_attrs (h : ∀ a, cnt a (.mk j k d as ks) ≤ 1) (a : Nat) : cntL a as ≤ 1 := by
  have := h a; rw [cnt_mk] at this; omega

theorem distinct_kids (h : ∀ a, cnt a (.mk j k d as ks) ≤ 1) (a : Nat) : cntL a ks ≤ 1 := by
  have := h a; rw [cnt_mk] at this; omega

theorem distinct_sub (h : ∀ a, cntL a (.mk j k d as ks :: r) ≤ 1) (a : Nat) : cntL a (as ++ ks) ≤ 1 := by
  have := h a; rw [cntL_cons_mk] at this; omega

theorem findInL_nil (i : Nat) : findInL i [] = none := by simp only [findInL]

theorem findInL_cons (i : Nat) (n : Node) (r : List Node) : findInL i (n :: r) = (findIn i n).or (findInL i r) := by
  simp only [findInL, Option.orElse_eq_or]

theorem findInL_singleton (i : Nat) (t : Node) : findInL i [t] = findIn i t := by
  rw [findInL_cons, findInL_nil, Option.or_none]

theorem findInL_append (i : Nat) (a b : List Node) : findInL i (a ++ b) = (findInL i a).or (findInL i b) := by
  induction a with
  | nil => rw [nil_append, findInL_nil, Option.none_or]
  | cons n r ih => rw [cons_append, findInL_cons, findInL_cons, ih, Option.or_assoc]

theorem findIn_mk_self : findIn j (.mk j k d as ks) = some (.mk j k d as ks) := by
  simp only [findIn, beq_self_eq_true, if_true]

theorem findIn_mk_ne (h : j ≠ i) : findIn i (.mk j k d as ks) = findInL i (as ++ ks) := by
  simp only [findIn, findInL_append, Option.orElse_eq_or, beq_eq_false_iff_ne.mpr (Ne.symm h), Bool.false_eq_true, if_false]

theorem findIn_root (t : Node) : findIn t.id t = some t := by
  cases t with
  | mk j k d as ks => exact findIn_mk_self

theorem findInL_eq_none_iff (i : Nat) (l : List Node) : findInL i l = none ↔ cntL i l = 0 := by
  induction l using forest_induct with
  | nil => simp only [findInL_nil, cntL_nil]
  | cons j k d as ks r _ _ ihS ihR =>
    rw [findInL_cons, cntL_cons]
    by_cases h : j = i
    · subst h; rw [findIn_mk_self, cnt_mk_self, Option.some_or]
      exact ⟨(fun h => nomatch h), fun h => by omega⟩
    · rw [findIn_mk_ne h, cnt_mk_ne h, Option.or_eq_none_iff, ihS, ihR]; omega

theorem findIn_eq_none_iff (i : Nat) (t : Node) : findIn i t = none ↔ cnt i t = 0 := by
  rw [← findInL_singleton, ← cntL_singleton]; exact findInL_eq_none_iff i [t]

theorem findIn_none (i : Nat) (t : Node) (h : cnt i t = 0) : findIn i t = none := (findIn_eq_none_iff i t).mpr h

theorem findInL_none (i : Nat) (l : List Node) (h : cntL i l = 0) : findInL i l = none := (findInL_eq_none_iff i l).mpr h

theorem findInL_of_pos (i : Nat) (l : List Node) (h : 0 < cntL i l) : ∃ n, findInL i l = some n :=
  Option.ne_none_iff_exists'.mp fun e => by have := (findInL_eq_none_iff i l).mp e; omega

/-! ### subtrees -/
mutual
/-- `m` occurs as a subtree of `t` (as `t` itself, below an attribute, or below a child) -/
def isSub (m : Node) : Node → Prop
  | .mk j k d as ks => m = .mk j k d as ks ∨ isSubL m as ∨ isSubL m ks
def isSubL (m : Node) : List Node → Prop
  | [] => False
  | t :: r => isSub m t ∨ isSubL m r
end

theorem isSubL_cons (m t : Node) (r : List Node) : isSubL m (t :: r) ↔ isSub m t ∨ isSubL m r := by simp only [isSubL]

theorem isSubL_singleton (m t : Node) : isSubL m [t] ↔ isSub m t := by simp only [isSubL, or_false]

theorem isSubL_append (m : Node) (a b : List Node) : isSubL m (a ++ b) ↔ isSubL m a ∨ isSubL m b := by
  induction a with
  | nil => simp only [nil_append, isSubL, false_or]
  | cons t r ih => rw [cons_append, isSubL_cons, isSubL_cons, ih, or_assoc]

theorem isSubL_cons_mk (m : Node) (j : Nat) (k : Kind) (d : Str) (as ks r : List Node) :
    isSubL m (.mk j k d as ks :: r) ↔ m = .mk j k d as ks ∨ isSubL m (as ++ ks) ∨ isSubL m r := by
  rw [isSubL_cons, isSub, isSubL_append, or_assoc]

theorem isSub_below (m t : Node) (h : isSubL m (t.attrs ++ t.kids)) : isSub m t := by
  cases t; exact .inr ((isSubL_append ..).mp h)

theorem isSubL_of_mem (m : Node) (l : List Node) (h : m ∈ l) : isSubL m l := by
  obtain ⟨a, b, rfl⟩ := mem_iff_append.mp h
  cases m
  exact (isSubL_append ..).mpr (.inr ((isSubL_cons_mk ..).mpr (.inl rfl)))

/-- the ids of a subtree are counted in -/
theorem isSubL_cnt (m : Node) (a : Nat) (l : List Node) (h : isSubL m l) : cnt a m ≤ cntL a l := by
  induction l using forest_induct with
  | nil => cases h
  | cons j k d as ks r _ _ ihS ihR =>
    rw [cntL_cons_mk]
    rcases (isSubL_cons_mk ..).mp h with rfl | h | h
    · rw [cnt_mk']; omega
    · have := ihS h; omega
    · have := ihR h; omega

/-- what `findInL` returns has the id asked for and is a subtree of the forest -/
theorem findInL_sub {i : Nat} {l : List Node} {n : Node} (h : findInL i l = some n) : n.id = i ∧ isSubL n l := by
  induction l using forest_induct with
  | nil => rw [findInL_nil] at h; cases h
  | cons j k d as ks r _ _ ihS ihR =>
    rw [findInL_cons] at h
    rw [isSubL_cons_mk]
    by_cases hj : j = i
    · subst hj; rw [findIn_mk_self, Option.some_or] at h; cases h; exact ⟨rfl, .inl rfl⟩
    · rw [findIn_mk_ne hj, Option.or_eq_some_iff] at h
      rcases h with h | ⟨_, h⟩
      · exact ⟨(ihS h).1, .inr (.inl (ihS h).2)⟩
      · exact ⟨(ihR h).1, .inr (.inr (ihR h).2)⟩

theorem isSubL_of_findInL {i : Nat} {l : List Node} {n : Node} (h : findInL i l = some n) : isSubL n l := (findInL_sub h).2

theorem findInL_some {i : Nat} {l : List Node} {n : Node} (h : findInL i l = some n) :
    n.id = i ∧ ∀ a, cnt a n ≤ cntL a l :=
  ⟨(findInL_sub h).1, fun a => isSubL_cnt n a l (findInL_sub h).2⟩

theorem findInL_some_mem {i : Nat} {l : List Node} {n : Node} (h : findInL i l = some n) : 0 < cntL i l :=
  Nat.pos_of_ne_zero fun e => by rw [(findInL_eq_none_iff i l).mpr e] at h; cases h

/-- UNIQUENESS: a subtree whose id occurs once in the forest is what looking up that id yields -/
theorem findInL_of_isSubL (m : Node) (l : List Node) (hc : cntL m.id l ≤ 1) (h : isSubL m l) : findInL m.id l = some m := by
  induction l using forest_induct with
  | nil => cases h
  | cons j k d as ks r _ _ ihS ihR =>
    have := cnt_id_pos m
    rw [cntL_cons_mk] at hc
    rw [findInL_cons]
    rcases (isSubL_cons_mk ..).mp h with rfl | h | h
    · rw [findIn_root]; rfl
    · have := isSubL_cnt m m.id _ h
      have hj : j ≠ m.id := fun e => by rw [e, beq_self_eq_true, if_pos rfl] at hc; omega
      rw [findIn_mk_ne hj, ihS (by omega) h]; rfl
    · have := isSubL_cnt m m.id _ h
      rw [findIn_none m.id _ (by rw [cnt_mk']; omega), ihR (by omega) h]; rfl

theorem findIn_some_mem (i : Nat) (t : Node) (n : Node) (h : findIn i t = some n) : 0 < cnt i t :=
  Nat.pos_of_ne_zero fun e => by rw [findIn_none i t e] at h; cases h

theorem updateInL_nil (i : Nat) (f : Node → Node) : updateInL i f [] = [] := by simp only [updateInL]

theorem updateInL_cons (i : Nat) (f : Node → Node) (n : Node) (r : List Node) :
    updateInL i f (n :: r) = updateIn i f n :: updateInL i f r := by simp only [updateInL]

theorem updateInL_append (i : Nat) (f : Node → Node) (a b : List Node) :
    updateInL i f (a ++ b) = updateInL i f a ++ updateInL i f b := by
  induction a with
  | nil => rw [nil_append, updateInL_nil, nil_append]
  | cons n r ih => rw [cons_append, updateInL_cons, updateInL_cons, ih, cons_append]

theorem updateIn_mk_self (f : Node → Node) : updateIn j f (.mk j k d as ks) = f (.mk j k d as ks) := by
  simp only [updateIn, beq_self_eq_true, if_true]

theorem updateIn_mk_ne (h : j ≠ i) (f : Node → Node) :
    updateIn i f (.mk j k d as ks) = .mk j k d (updateInL i f as) (updateInL i f ks) := by
  simp only [updateIn, beq_eq_false_iff_ne.mpr (Ne.symm h), Bool.false_eq_true, if_false]

theorem updateIn_root (f : Node → Node) (t : Node) : updateIn t.id f t = f t := by
  cases t with
  | mk j k d as ks => exact updateIn_mk_self f

theorem updateInL_absent (i : Nat) (f : Node → Node) (l : List Node) (h : cntL i l = 0) : updateInL i f l = l := by
  induction l using forest_induct with
  | nil => exact updateInL_nil i f
  | cons j k d as ks r ihA ihK _ ihR =>
    rw [cntL_cons] at h
    have hj : j ≠ i := id_ne_of_cnt_zero (t := .mk j k d as ks) (by omega)
    rw [cnt_mk] at h
    rw [updateInL_cons, updateIn_mk_ne hj, ihA (by omega), ihK (by omega), ihR (by omega)]

theorem updateIn_absent (i : Nat) (f : Node → Node) (t : Node) (h : cnt i t = 0) : updateIn i f t = t := by
  have := updateInL_absent i f [t] (by rwa [cntL_singleton])
  rw [updateInL_cons] at this; exact (cons.inj this).1

/-- UPDATE: in a forest whose ids are pairwise distinct, replacing the node `nn` with id `i` by `f nn`
    changes the number of occurrences of an id exactly as `f` changes it on `nn` -/
theorem updateInL_count (i : Nat) (f : Node → Node) (nn : Node) (a lost extra : Nat)
    (hf : cnt a (f nn) + lost = cnt a nn + extra)
    (l : List Node) (hnd : ∀ a, cntL a l ≤ 1) (hfind : findInL i l = some nn) :
    cntL a (updateInL i f l) + lost = cntL a l + extra := by
  induction l using forest_induct with
  | nil => rw [findInL_nil] at hfind; cases hfind
  | cons j k d as ks r _ _ ihS ihR =>
    have hi := hnd i
    rw [findInL_cons] at hfind
    rw [cntL_cons] at hi
    rw [updateInL_cons, cntL_cons, cntL_cons]
    by_cases hj : j = i
    · subst hj
      rw [findIn_mk_self, Option.some_or] at hfind; cases hfind
      rw [cnt_mk_self] at hi
      rw [updateIn_mk_self, updateInL_absent j f r (by omega)]
      omega
    · rw [cnt_mk_ne hj] at hi
      rw [findIn_mk_ne hj, Option.or_eq_some_iff] at hfind
      rw [updateIn_mk_ne hj, cnt_mk', cnt_mk', ← updateInL_append]
      rcases hfind with h | ⟨h0, h⟩
      · have := findInL_some_mem h
        have := ihS (distinct_sub hnd) h
        rw [updateInL_absent i f r (by omega)]; omega
      · have := findInL_some_mem h
        have := ihR (distinct_tail hnd) h
        rw [updateInL_absent i f (as ++ ks) (by omega)]; omega

theorem updateIn_count (i : Nat) (f : Node → Node) (nn : Node) (lost extra : List Nat)
    (hf : ∀ a, cnt a (f nn) + count a lost = cnt a nn + count a extra) :
    (t : Node) → (∀ a, cnt a t ≤ 1) → findIn i t = some nn →
      ∀ a, cnt a (updateIn i f t) + count a lost = cnt a t + count a extra := by
  intro t hnd hfind a
  have := updateInL_count i f nn a _ _ (hf a) [t] (by simpa only [cntL_singleton] using hnd) (by rwa [findInL_singleton])
  rwa [updateInL_cons, updateInL_nil, cntL_singleton, cntL_singleton] at this

/-! ### remove: the equations of `removeIn` / `removeInL`, one per branch (the cases of `removeIn.mutual_induct`) -/
theorem removeIn_attr (h : removeInL i as = (as', some x)) : removeIn i (.mk j k d as ks) = (.mk j k d as' ks, some x) := by
  simp only [removeIn, h]

theorem removeIn_kid (h : removeInL i as = (as', none)) :
    removeIn i (.mk j k d as ks) = (.mk j k d as (removeInL i ks).1, (removeInL i ks).2) := by
  simp only [removeIn, h]

/-- the root stays: `removeIn` looks below it only -/
theorem removeIn_idKind (i : Nat) (t : Node) : (removeIn i t).1.id = t.id ∧ (removeIn i t).1.kind = t.kind := by
  cases t with
  | mk j k d as ks =>
    cases h : removeInL i as with
    | mk as' x =>
      cases x with
      | some y => rw [removeIn_attr h]; exact ⟨rfl, rfl⟩
      | none => rw [removeIn_kid h]; exact ⟨rfl, rfl⟩

theorem removeInL_nil (i : Nat) : removeInL i [] = ([], none) := by simp only [removeInL]

theorem removeInL_hit (h : (n.id == i) = true) : removeInL i (n :: r) = (r, some n) := by
  simp only [removeInL, h, if_true]

theorem removeInL_in (h : ¬(n.id == i) = true) (h' : removeIn i n = (n', some x)) :
    removeInL i (n :: r) = (n' :: r, some x) := by
  simp only [removeInL, h, h', Bool.false_eq_true, if_false]

theorem removeInL_out (h : ¬(n.id == i) = true) (h' : removeIn i n = (n', none)) :
    removeInL i (n :: r) = (n :: (removeInL i r).1, (removeInL i r).2) := by
  simp only [removeInL, h, h', Bool.false_eq_true, if_false]

/-- REMOVE: what is taken out and what stays add up to what there was; a miss changes nothing -/
theorem remove_count (i : Nat) :
    (∀ t t' x, removeIn i t = (t', x) →
      (match x with
       | some n => n.id = i ∧ ∀ a, cnt a t' + cnt a n = cnt a t
       | none => t' = t)) ∧
    (∀ l l' x, removeInL i l = (l', x) →
      (match x with
       | some n => n.id = i ∧ ∀ a, cntL a l' + cnt a n = cntL a l
       | none => l' = l)) := by
  apply removeIn.mutual_induct
  · intro j k d as ks as' x h ih t' x' he
    rw [removeIn_attr h] at he; cases he
    have := ih as' (some x) h
    exact ⟨this.1, fun a => by rw [cnt_mk, cnt_mk]; have := this.2 a; omega⟩
  · intro j k d as ks as' h ks' x hk _ ih t' x' he
    simp only [removeIn_kid h, hk, Prod.mk.injEq] at he; obtain ⟨rfl, rfl⟩ := he
    have := ih ks' x hk
    cases x with
    | some n => exact ⟨this.1, fun a => by rw [cnt_mk, cnt_mk]; have := this.2 a; omega⟩
    | none => simp only at this ⊢; rw [this]
  · intro l' x he
    rw [removeInL_nil] at he; cases he; rfl
  · intro n r h l' x he
    rw [removeInL_hit h] at he; cases he
    exact ⟨beq_iff_eq.mp h, fun a => by rw [cntL_cons]; omega⟩
  · intro n r h n' x h' ih l' x' he
    rw [removeInL_in h h'] at he; cases he
    have := ih n' (some x) h'
    exact ⟨this.1, fun a => by rw [cntL_cons, cntL_cons]; have := this.2 a; omega⟩
  · intro n r h n' h' r' x hr _ ih l' x' he
    simp only [removeInL_out h h', hr, Prod.mk.injEq] at he; obtain ⟨rfl, rfl⟩ := he
    have := ih r' x hr
    cases x with
    | some m => exact ⟨this.1, fun a => by rw [cntL_cons, cntL_cons]; have := this.2 a; omega⟩
    | none => simp only at this ⊢; rw [this]

theorem removeIn_some_count {t t' : Node} (h : removeIn i t = (t', some x)) :
    x.id = i ∧ ∀ a, cnt a t' + cnt a x = cnt a t := (remove_count i).1 t t' (some x) h

theorem removeIn_none_eq {t t' : Node} (h : removeIn i t = (t', none)) : t' = t := (remove_count i).1 t t' none h

theorem removeInL_some_count {l l' : List Node} (h : removeInL i l = (l', some x)) :
    x.id = i ∧ ∀ a, cntL a l' + cnt a x = cntL a l := (remove_count i).2 l l' (some x) h

theorem removeInL_none_eq {l l' : List Node} (h : removeInL i l = (l', none)) : l' = l := (remove_count i).2 l l' none h

theorem findIn_below (h : ¬(n.id == i) = true) : findIn i n = findInL i (n.attrs ++ n.kids) := by
  cases n; exact findIn_mk_ne (by simpa [Node.id] using h)

/-- remove returns what find returns (below the root, for a tree: `removeIn` does not look at it) -/
theorem remove_snd (i : Nat) :
    (∀ t, (removeIn i t).2 = findInL i (t.attrs ++ t.kids)) ∧ (∀ l, (removeInL i l).2 = findInL i l) := by
  apply removeIn.mutual_induct
  · intro j k d as ks as' x h ih
    rw [removeIn_attr h, Node.attrs, Node.kids, findInL_append, ← ih, h]; rfl
  · intro j k d as ks as' h ks' x hk ihA ihK
    rw [removeIn_kid h, Node.attrs, Node.kids, findInL_append, ← ihA, ← ihK, h]; rfl
  · rw [removeInL_nil, findInL_nil]
  · intro n r h
    rw [removeInL_hit h, findInL_cons, ← beq_iff_eq.mp h, findIn_root]; rfl
  · intro n r h n' x h' ih
    rw [removeInL_in h h', findInL_cons, findIn_below h, ← ih, h']; rfl
  · intro n r h n' h' r' x hr ihN ihR
    rw [removeInL_out h h', findInL_cons, findIn_below h, ← ihN, h', ← ihR]; rfl

/-- what is taken out was a subtree -/
theorem removeInL_taken {l l' : List Node} (h : removeInL i l = (l', some x)) : isSubL x l :=
  isSubL_of_findInL (i := i) (by rw [← (remove_snd i).2 l, h])

theorem removeIn_taken {t t' : Node} (h : removeIn i t = (t', some x)) : isSub x t :=
  isSub_below x t (isSubL_of_findInL (i := i) (by rw [← (remove_snd i).1 t, h]))

theorem removeInL_some_pos {l l' : List Node} (h : removeInL i l = (l', some x)) : 0 < cntL i l :=
  findInL_some_mem (l := l) (n := x) (by rw [← (remove_snd i).2 l, h])

theorem removeInL_none_zero {l l' : List Node} (h : removeInL i l = (l', none)) : cntL i l = 0 :=
  (findInL_eq_none_iff i l).mp (by rw [← (remove_snd i).2 l, h])

theorem removeIn_some_pos (hne : ¬(n.id == i) = true) (h : removeIn i n = (n', some x)) : 0 < cnt i n :=
  findIn_some_mem i n x (by rw [findIn_below hne, ← (remove_snd i).1 n, h])

theorem removeIn_none_zero (hne : ¬(n.id == i) = true) (h : removeIn i n = (n', none)) : cnt i n = 0 :=
  (findIn_eq_none_iff i n).mp (by rw [findIn_below hne, ← (remove_snd i).1 n, h])

/-- the new node goes somewhere into the list, which is otherwise unchanged -/
theorem insertBeforeL_split (x : Node) (ref : Option Nat) (l : List Node) :
    ∃ a b, l = a ++ b ∧ insertBeforeL x ref l = a ++ x :: b := by
  induction l with
  | nil => exact ⟨[], [], rfl, rfl⟩
  | cons n r ih =>
    obtain ⟨a, b, hl, hi⟩ := ih
    have later : insertBeforeL x ref (n :: r) = n :: insertBeforeL x ref r →
        ∃ a b, n :: r = a ++ b ∧ insertBeforeL x ref (n :: r) = a ++ x :: b :=
      fun h => ⟨n :: a, b, by rw [hl]; rfl, by rw [h, hi]; rfl⟩
    cases ref with
    | none => exact later (by simp only [insertBeforeL])
    | some i =>
      by_cases h : (n.id == i) = true
      · exact ⟨[], n :: r, rfl, by simp only [insertBeforeL, h, if_true]; rfl⟩
      · exact later (by simp only [insertBeforeL, h, Bool.false_eq_true, if_false])

end XmlRs.Dom
