import XmlRsModel.Lemmas.RunsDtdLex
/-! Completeness of the parts of an attribute-list declaration: `|`-separated token lists, attribute types, default
    declarations, attribute definitions. -/
namespace XmlRs.Lex
open XmlRs Gen.Xml XmlRs.Names

def barSep : G := G.seq [G.cls0 P.isSpace, G.tag ['|'], G.cls0 P.isSpace]
def cstBar (a b : Str) : CST := .seq [.leaf a, .leaf ['|'], .leaf b]

def sepCsts {α : Type} (cst : α → CST) (rest : List (Str × Str × α)) : List CST :=
  rest.map fun y => CST.seq [cstBar y.1 y.2.1, cst y.2.2]

theorem sp_rpar : P.isSpace ')' = false := by decide

section sepLoop
variable {α : Type} (txt : α → Str) (okT : α → Bool) (g : G) (cst : α → CST)
  (hhead : ∀ x, okT x = true → Starts P.isNameChar (txt x))
  (hg : ∀ x Y, okT x = true → Stops P.isNameChar Y → Runs env g (txt x ++ Y) (.ok (cst x) Y))

/-- `fun (a, b, x) => okWs a && okWs b && okT x`, as the side conditions of the model say it, unfolds to this -/
def okSepItem (y : Str × Str × α) : Bool := okWs y.1 && okWs y.2.1 && okT y.2.2

theorem stops_nc_sep (rest : List (Str × Str × α)) (w2 : Str) (Y : Str) (hrest : rest.all (okSepItem okT) = true) (hw2 : okWs w2 = true) :
    Stops P.isNameChar (sepTextG txt rest ++ (w2 ++ ')' :: Y)) := by
  cases rest with
  | nil => exact .ws nc_space hw2 fun _ => .cons _ (by decide)
  | cons y r =>
    obtain ⟨a, b, x⟩ := y
    simp only [List.all_cons, Bool.and_eq_true, okSepItem] at hrest
    simp only [sepTextG, List.append_assoc, List.cons_append]
    exact .ws nc_space hrest.1.1.1 fun _ => .cons _ (by decide)

include hhead hg

theorem runs_sep_loop : ∀ (rest : List (Str × Str × α)) (w2 Y : Str), rest.all (okSepItem okT) = true → okWs w2 = true →
    RunsMany env (G.seq [barSep, g]) (sepTextG txt rest ++ (w2 ++ ')' :: Y)) (.ok (sepCsts cst rest) (w2 ++ ')' :: Y))
  | [], w2, Y, _, hw2 => .stop (Runs.seq_fail_head (ws_tag_fails hw2 sp_rpar (by decide)))
  | (a, b, x) :: r, w2, Y, hrest, hw2 => by
    simp only [List.all_cons, Bool.and_eq_true, okSepItem] at hrest
    obtain ⟨⟨⟨ha, hb⟩, hx⟩, hr⟩ := hrest
    simp only [sepTextG, List.append_assoc, List.cons_append]
    refine .step (r := sepTextG txt r ++ (w2 ++ ')' :: Y))
      (Runs.seq2 (runs_ws_char_ws (by decide) ha hb (.of_head space_not_nameChar (hhead x hx) _))
        (hg x _ hx (stops_nc_sep txt okT r w2 Y hr hw2))) ?_ (runs_sep_loop r w2 Y hr hw2)
    simp only [List.length_append, List.length_cons]
    omega

/-- `tok (S? | S? tok)* S? )` -/
theorem runs_sep_list {first : α} (hf : okT first = true) {rest : List (Str × Str × α)} (hrest : rest.all (okSepItem okT) = true)
    {w2 : Str} (hw2 : okWs w2 = true) (Y : Str) :
    RunsSeq env [.seq [g, .many0 (.seq [barSep, g])], .seq [.cls0 P.isSpace, .tag [')']]]
      (txt first ++ (sepTextG txt rest ++ (w2 ++ ')' :: Y)))
      (.ok [.seq [cst first, .many (sepCsts cst rest)], .seq [.leaf w2, .leaf [')']]] Y) :=
  .cons (Runs.seq2 (hg first _ hf (stops_nc_sep txt okT rest w2 Y hrest hw2)) (Runs.many (runs_sep_loop txt okT g cst hhead hg rest w2 Y hrest hw2)))
    (.cons (runs_ws_tag hw2 [')'] (.cons Y sp_rpar)) (.nil _))
end sepLoop

def cstNmtoken (n : Str) : CST := .node N.nmtoken (.leaf n)

theorem okNameTok_parts {n : Str} (h : okNameTok n = true) : n ≠ [] ∧ n.all P.isNameChar = true := by
  simpa [okNameTok] using h

theorem okNameTok_head {n : Str} (h : okNameTok n = true) : Starts P.isNameChar n := by
  obtain ⟨h1, h2⟩ := okNameTok_parts h
  cases n with
  | nil => exact absurd rfl h1
  | cons c t => rw [List.all_cons, Bool.and_eq_true] at h2; exact .cons t h2.1

theorem runs_nmtoken {n Y : Str} (h : okNameTok n = true) (hY : Stops P.isNameChar Y) :
    Runs env (.nt N.nmtoken) (n ++ Y) (.ok (cstNmtoken n) Y) :=
  Runs.nt_of env_nmtoken (runs_cls1 (okNameTok_parts h).1 (okNameTok_parts h).2 hY)

theorem runs_name_tok {n Y : Str} (h : okNameTok n = true) (hY : Stops P.isNameChar Y) :
    Runs env (.nt N.name) (n ++ Y) (.ok (cstName n) Y) :=
  runs_name (okNameTok_parts h).2 hY

def kwOfType : AttType → Str := printAttType

def cstAttType : CAttType → CST
  | .kw t => .node N.att_type (.leaf (printAttType t))
  | .notationTy w0 w1 f rest w2 => .node N.att_type (.node N.enumerated_type (.node N.notation_type
      (.seq [.seq [.leaf kwNOTATIONty, .leaf w0, .leaf ['('], .leaf w1], .seq [cstName f, .many (sepCsts cstName rest)], .seq [.leaf w2, .leaf [')']]])))
  | .enumeration w0 f rest w1 => .node N.att_type (.node N.enumerated_type (.node N.enumeration
      (.seq [.seq [.leaf ['('], .leaf w0], .seq [cstNmtoken f, .many (sepCsts cstNmtoken rest)], .seq [.leaf w1, .leaf [')']]])))

/-- the keywords in the order of `att_type`: a keyword stands in front of its prefixes -/
def kwTags : List Str := [.cdata, .idrefs, .idref, .id, .entities, .entity, .nmtokens, .nmtoken].map printAttType

theorem kw_table (t : AttType) (ht : isKwType t = true) :
    firstLit kwTags (printAttType t) = some (printAttType t, []) ∧ stripPrefix kwNOTATIONty (printAttType t) = none ∧
    ∃ d r, printAttType t = d :: r ∧ '(' ≠ d := by
  cases t <;> first | exact ⟨by decide, by decide, _, _, rfl, by decide⟩ | cases ht

theorem runs_att_type_kw (t : AttType) (ht : isKwType t = true) (c : Char) (hc : P.isSpace c = true) (Y : Str) :
    Runs env (.nt N.att_type) (printAttType t ++ c :: Y) (.ok (cstAttType (.kw t)) (c :: Y)) := by
  have hX : Stops P.isNameChar (c :: Y) := .cons _ (nc_space c hc)
  obtain ⟨h1, h2, d, r, h3, hd⟩ := kw_table t ht
  have hnot : stripPrefix kwNOTATIONty (printAttType t ++ c :: Y) = none := by
    rw [strip_name_align kwNOTATIONty _ _ (by decide) hX, h2]; rfl
  have hpar : stripPrefix ['('] (printAttType t ++ c :: Y) = none := by rw [h3]; exact strip_cons_ne _ _ hd
  have hen : Runs env (.nt N.enumerated_type) (printAttType t ++ c :: Y) .fail :=
    Runs.nt_fail_of env_enumerated_type (Runs.alt
      (.skip (Runs.nt_fail_of env_notation_type (Runs.seq_fail_head (Runs.seq_fail_head (Runs.tag_fail hnot))))
      (.skip (Runs.nt_fail_of env_enumeration (Runs.seq_fail_head (Runs.seq_fail_head (Runs.tag_fail hpar)))) (.nil _))))
  have hkw := runs_alt_lits (env := env) kwTags (printAttType t ++ c :: Y)
  rw [firstLit_align kwTags (by decide) _ hX, h1] at hkw
  exact Runs.nt_of env_att_type (Runs.alt (.skip hen hkw))

theorem tokensText_eq (rest : List (Str × Str × Str)) : tokensText rest = sepTextG id rest := rfl

theorem runs_att_type {ty : CAttType} (h : okAttType ty = true) (c : Char) (hc : P.isSpace c = true) (Y : Str) :
    Runs env (.nt N.att_type) (ty.str ++ c :: Y) (.ok (cstAttType ty) (c :: Y)) := by
  cases ty with
  | kw t => exact runs_att_type_kw t (by simpa [okAttType] using h) c hc Y
  | notationTy w0 w1 f rest w2 =>
    simp only [okAttType, Bool.and_eq_true] at h
    obtain ⟨⟨⟨⟨h0, h1⟩, hf⟩, hrest⟩, h2⟩ := h
    simp only [CAttType.str, tokensText_eq, List.append_assoc, List.cons_append, List.nil_append]
    exact Runs.nt_of env_att_type (Runs.alt (.hit (Runs.nt_of env_enumerated_type (Runs.alt (.hit (Runs.nt_of env_notation_type (Runs.seq
      (.cons (Runs.seq (.cons (Runs.tag_ok kwNOTATIONty _) (.cons (runs_ws1 h0 (.cons _ (by decide)))
        (.cons (Runs.tag_ok ['('] _) (.cons (runs_cls0 h1 (.of_head space_not_nameChar (okNameTok_head hf) _)) (.nil _))))))
      (runs_sep_list id okNameTok (.nt N.name) cstName (fun _ => okNameTok_head) (fun _ _ => runs_name_tok) hf hrest h2 _)))))))))
  | enumeration w0 f rest w1 =>
    simp only [okAttType, Bool.and_eq_true] at h
    obtain ⟨⟨⟨h0, hf⟩, hrest⟩, h1⟩ := h
    simp only [CAttType.str, tokensText_eq, List.append_assoc, List.cons_append, List.nil_append]
    exact Runs.nt_of env_att_type (Runs.alt (.hit (Runs.nt_of env_enumerated_type (Runs.alt
      (.skip (Runs.nt_fail_of env_notation_type (Runs.seq_fail_head (Runs.seq_fail_head (Runs.tag_fail rfl))))
      (.hit (Runs.nt_of env_enumeration (Runs.seq
        (.cons (Runs.seq2 (Runs.tag_ok ['('] _) (runs_cls0 h0 (.of_head space_not_nameChar (okNameTok_head hf) _)))
        (runs_sep_list id okNameTok (.nt N.nmtoken) cstNmtoken (fun _ => okNameTok_head) (fun _ _ => runs_nmtoken) hf hrest h1 _))))))))))

def cstDefault : CDefault → CST
  | .required => .node N.default_decl (.leaf kwREQUIRED)
  | .implied => .node N.default_decl (.leaf kwIMPLIED)
  | .value none q vals => .node N.default_decl (.seq [.seq [], cstAttValue q vals])
  | .value (some w) q vals => .node N.default_decl (.seq [.seq [.leaf kwFIXED, .leaf w], cstAttValue q vals])

theorem runs_default {d : CDefault} (h : okDefault d = true) (Y : Str) :
    Runs env (.nt N.default_decl) (d.str ++ Y) (.ok (cstDefault d) Y) := by
  cases d with
  | required => exact Runs.nt_of env_default_decl (Runs.alt (.hit (Runs.tag_ok kwREQUIRED Y)))
  | implied => exact Runs.nt_of env_default_decl (Runs.alt (.skip (Runs.tag_fail rfl) (.hit (Runs.tag_ok kwIMPLIED Y))))
  | value fixed q vals =>
    simp only [okDefault, Bool.and_eq_true, Bool.not_eq_true'] at h
    obtain ⟨⟨⟨hfx, hq⟩, hall⟩, hadj⟩ := h
    have hav := runs_att_value q (isQuote_cases hq) vals Y hall hadj
    have hqh : '#' ≠ q := by rcases isQuote_cases hq with rfl | rfl <;> decide
    cases fixed with
    | none =>
      simp only [CDefault.str, List.append_assoc, List.cons_append, List.nil_append]
      exact Runs.nt_of env_default_decl (Runs.alt (.skip (Runs.tag_fail (strip_cons_ne _ _ hqh)) (.skip (Runs.tag_fail (strip_cons_ne _ _ hqh))
        (.hit (Runs.seq2 (Runs.opt_none (Runs.seq_fail_head (Runs.tag_fail (strip_cons_ne _ _ hqh)))) hav)))))
    | some w =>
      simp only [CDefault.str, List.append_assoc, List.cons_append, List.nil_append]
      exact Runs.nt_of env_default_decl (Runs.alt (.skip (Runs.tag_fail rfl) (.skip (Runs.tag_fail rfl)
        (.hit (Runs.seq2 (Runs.opt_some (runs_tag_ws1 kwFIXED hfx (.cons _ (sp_of_quote hq)))) hav)))))

def cstAttDef (a : CAttDef) : CST :=
  .node N.att_def (.seq [.seq [.leaf a.ws0, cstQN a.name], .seq [.leaf a.ws1, cstAttType a.ty], .seq [.leaf a.ws2, cstDefault a.dflt]])

theorem okAttDef_parts {a : CAttDef} (h : okAttDef a = true) :
    okWs1 a.ws0 = true ∧ okQN a.name = true ∧ okWs1 a.ws1 = true ∧ okAttType a.ty = true ∧ okWs1 a.ws2 = true ∧ okDefault a.dflt = true := by
  simpa only [okAttDef, Bool.and_eq_true, and_assoc] using h

theorem attType_stops_space {ty : CAttType} (h : okAttType ty = true) (Y : Str) : Stops P.isSpace (ty.str ++ Y) := by
  cases ty with
  | kw t => cases t <;> first | exact .cons _ (by decide) | simp [okAttType, isKwType] at h
  | notationTy w0 w1 f rest w2 => exact .cons _ (by decide)
  | enumeration w0 f rest w1 => exact .cons _ (by decide)

theorem default_stops_space {d : CDefault} (h : okDefault d = true) (Y : Str) : Stops P.isSpace (d.str ++ Y) := by
  cases d with
  | required => exact .cons _ (by decide)
  | implied => exact .cons _ (by decide)
  | value fixed q vals =>
    simp only [okDefault, Bool.and_eq_true] at h
    cases fixed with
    | none => exact .cons _ (sp_of_quote h.1.1.2)
    | some w => exact .cons _ (by decide)

theorem runs_att_def {a : CAttDef} (h : okAttDef a = true) (Y : Str) :
    Runs env (.nt N.att_def) (a.str ++ Y) (.ok (cstAttDef a) Y) := by
  obtain ⟨h0, hn, h1, hty, h2, hd⟩ := okAttDef_parts h
  simp only [CAttDef.str, List.append_assoc]
  -- the white space behind the type starts with a space character: that is what ends a keyword type
  obtain ⟨c, cs, hcs, hc⟩ : ∃ c cs, a.ws2 = c :: cs ∧ P.isSpace c = true := by
    obtain ⟨c1, c2⟩ := okWs1_parts h2
    cases hw : a.ws2 with
    | nil => exact absurd hw c1
    | cons c cs => rw [hw, okWs, List.all_cons, Bool.and_eq_true] at c2; exact ⟨c, cs, rfl, c2.1⟩
  have hty' := runs_att_type hty c hc (cs ++ (a.dflt.str ++ Y))
  rw [← List.cons_append, ← hcs] at hty'
  exact Runs.nt_of env_att_def
    (Runs.seq3 (runs_ws1_then h0 (stops_space_name hn _) (Runs.alt (.hit (runs_qname hn (.ws1 nc_space h1 _)))))
      (runs_ws1_then h1 (attType_stops_space hty _) hty') (runs_ws1_then h2 (default_stops_space hd _) (runs_default hd Y)))

end XmlRs.Lex
