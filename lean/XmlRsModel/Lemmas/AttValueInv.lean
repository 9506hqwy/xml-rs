import XmlRsModel.Lemmas.PegSound
import XmlRsModel.Lemmas.DomNormal
import XmlRsModel.DomOK
/-! What the `att_value` production accepts, read off a derivation: every text piece of an accepted attribute value
    consists of characters other than `<` and `&`. -/
namespace XmlRs.Dom
open XmlRs Gen.Xml

theorem avChar_of_except {ex : Str} (hl : ex.contains '<' = true) (ha : ex.contains '&' = true) {c : Char}
    (h : P.except P.isChar ex c = true) : avChar c = true := by
  rw [P.except, Bool.and_eq_true, Bool.not_eq_true'] at h
  rw [avChar, Bool.and_eq_true, Bool.and_eq_true, bne_iff_ne, bne_iff_ne]
  exact ⟨⟨h.1, fun e => by rw [e, hl] at h; cases h.2⟩, fun e => by rw [e, ha] at h; cases h.2⟩

theorem absReference_not_text (b : CST) : pieceOK (absReference b) = true := by
  unfold absReference
  split
  · split
    · unfold absCharRef; simp only; split <;> rfl
    · split <;> rfl
  · rfl

theorem items_pieces (q : Char) : ∀ items : List CST,
    DerivesAll env (.alt [.cls1 (P.except P.isChar [Char.ofNat 60, Char.ofNat 38, q]), .nt N.reference]) items →
    ∀ t ∈ toksL items, pieceOK (match t with
      | .leaf s => .text s
      | .node n b => if n == N.reference then absReference b
                     else if n == N.pe_reference then (match b.kidsL with | [(_, nm)] => .peRef nm.flatten | _ => .peRef [])
                     else .text b.flatten) = true
  | [], _, t, ht => nomatch ht
  | c :: cs, .cons _ _ _ hc hcs, t, ht => by
    rw [toksL, List.mem_append] at ht
    rcases ht with ht | ht
    · cases hc with
      | alt _ g _ hg hd =>
        simp only [List.mem_cons, List.mem_nil_iff, or_false] at hg
        rcases hg with rfl | rfl
        · cases hd with
          | cls1 _ s hne hall =>
            rw [CST.toks, if_neg (by simpa using hne), List.mem_singleton] at ht
            subst ht
            exact List.all_eq_true.mpr fun ch hch => avChar_of_except rfl rfl (hall ch hch)
        · cases hd with
          | nt _ c' _ =>
            rw [CST.toks, List.mem_singleton] at ht
            subst ht
            exact absReference_not_text c'
    · exact items_pieces q cs hcs t ht

theorem quoted_pieces (q : Char) (b : CST)
    (h : Derives env (.seq [.tag [q], .many0 (.alt [.cls1 (P.except P.isChar [Char.ofNat 60, Char.ofNat 38, q]), .nt N.reference]), .tag [q]]) b) :
    ∀ p ∈ absPieces b, pieceOK p = true := by
  cases h with
  | seq _ ks hs =>
    cases hs with
    | cons _ _ c1 cs1 h1 hs1 =>
      cases hs1 with
      | cons _ _ c2 cs2 h2 hs2 =>
        cases hs2 with
        | cons _ _ c3 cs3 h3 hs3 =>
          cases hs3
          cases h1; cases h3
          cases h2 with
          | many _ items hit =>
            intro p hp
            have ht : (CST.seq [.leaf [q], .many items, .leaf [q]]).toks = Tok.leaf [q] :: (toksL items ++ [Tok.leaf [q]]) := by
              simp [CST.toks, toksL]
            simp only [absPieces, ht, List.drop_one, List.tail_cons, List.dropLast_concat, List.mem_map] at hp
            obtain ⟨t, htm, rfl⟩ := hp
            exact items_pieces q items hit t htm

theorem parseAttrValue_pieces (v : Str) (ps : List Piece) (h : parseAttrValue v = some ps) : ∀ p ∈ ps, pieceOK p = true := by
  unfold parseAttrValue at h
  simp only at h
  split at h
  · next n b hr =>
    split at h
    · simp only [Option.some.injEq] at h; subst h
      obtain ⟨hd, _⟩ := run_derives hr
      cases hd with
      | nt _ _ hb =>
        rw [env_att_value] at hb
        unfold Prod.att_value at hb
        cases hb with
        | alt _ g _ hg hd =>
          simp only [List.mem_cons, List.mem_nil_iff, or_false] at hg
          rcases hg with rfl | rfl
          · exact quoted_pieces _ b hd
          · exact quoted_pieces _ b hd
    · cases h
  · cases h

end XmlRs.Dom
