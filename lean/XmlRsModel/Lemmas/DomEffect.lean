import XmlRsModel.Lemmas.DomNav
import XmlRsModel.Lemmas.DomStep
/-! What the tree mutators DO (property C13, "exactly the change DOM Level 1 specifies"): where a
    node is found after another one was taken out, and what the child lists look like. -/
namespace XmlRs.Dom
open List

theorem removeInL_none_of_absent : ∀ (i : Nat) (l : List Node), cntL i l = 0 → removeInL i l = (l, none) := by
  intro i l h
  have h2 := (remove_snd i).2 l
  rw [findInL_none i l h] at h2
  exact Prod.ext (removeInL_none_eq (Prod.ext rfl h2)) h2

/-- the root ids of a forest after removing `c` somewhere in it: the root `c` is gone, all others stay in order -/
theorem removeInL_ids (c : Nat) (l : List Node) (hnd : ∀ a, cntL a l ≤ 1) :
    (removeInL c l).1.map (·.id) = (l.map (·.id)).filter (· != c) := by
  rw [filter_map]
  show _ = (l.filter (·.id != c)).map (·.id)
  induction l with
  | nil => rw [removeInL_nil]; rfl
  | cons n r ih =>
    have hc := hnd c
    rw [cntL_cons] at hc
    have hr := ih (distinct_tail hnd)
    by_cases hid : (n.id == c) = true
    · -- no other root has id `c`
      have := cnt_id_pos n
      rw [beq_iff_eq.mp hid] at this
      rw [removeInL_hit hid, filter_cons_of_neg (by simpa using hid)]
      exact congrArg _ (filter_root_absent c r (by omega)).symm
    · rw [filter_cons_of_pos (by simpa using hid), map_cons]
      cases h : removeIn c n with
      | mk n' x => cases x with
        | some y =>
          -- `c` was inside `n`, so not among the rest
          have := removeIn_some_pos hid h
          rw [removeInL_in hid h, map_cons, ← (removeIn_idKind c n).1, h, (filter_root_absent c r (by omega) : filter _ r = r)]
        | none => rw [removeInL_out hid h, map_cons, hr]

theorem removeIn_kids_ids (c : Nat) (t : Node) (hnd : ∀ a, cnt a t ≤ 1) :
    (removeIn c t).1.kids.map (·.id) = (t.kids.map (·.id)).filter (· != c) := by
  cases t with
  | mk j k d as ks =>
    have hc := hnd c
    rw [cnt_mk] at hc
    cases h : removeInL c as with
    | mk as' x => cases x with
      | some y =>
        -- `c` was below an attribute: no child has id `c`
        have := removeInL_some_pos h
        rw [removeIn_attr h, filter_map]
        exact congrArg _ (filter_root_absent c ks (by omega)).symm
      | none =>
        rw [removeIn_kid h]
        exact removeInL_ids c ks (distinct_kids hnd)

theorem findInL_map_removeIn (c p : Nat) (l : List Node) (h : cntL c l = 0) :
    (findInL p l).map (fun n => (removeIn c n).1) = findInL p l := by
  cases hf : findInL p l with
  | none => rfl
  | some n =>
    have := (findInL_some hf).2 c
    rw [Option.map_some, removeIn_none_of_absent c n (by omega)]

theorem findIn_map_removeIn (c p : Nat) (t : Node) (h : cnt c t = 0) :
    (findIn p t).map (fun n => (removeIn c n).1) = findIn p t := by
  rw [← findInL_singleton]; exact findInL_map_removeIn c p [t] (by rwa [cntL_singleton])

theorem findIn_removeIn_root (c : Nat) (t : Node) :
    findIn t.id (removeIn c t).1 = (findIn t.id t).map fun n => (removeIn c n).1 := by
  rw [findIn_root, ← (removeIn_idKind c t).1, findIn_root]; rfl

/-- FIND AFTER REMOVE, in a forest with pairwise distinct ids: what is found under `p` once `c` was taken out is
    what was found before with `c` removed from below it - for every `p` outside the removed subtree -/
theorem find_remove (c : Nat) :
    (∀ t, (∀ a, cnt a t ≤ 1) → t.id ≠ c → ∀ p, (∀ x, (removeIn c t).2 = some x → cnt p x = 0) →
      findIn p (removeIn c t).1 = (findIn p t).map fun n => (removeIn c n).1) ∧
    (∀ l, (∀ a, cntL a l ≤ 1) → ∀ p, (∀ x, (removeInL c l).2 = some x → cnt p x = 0) →
      findInL p (removeInL c l).1 = (findInL p l).map fun n => (removeIn c n).1) := by
  apply removeIn.mutual_induct
  · intro j k d as ks as' x h ih hnd _ p hx
    by_cases hp : j = p
    · subst hp; exact findIn_removeIn_root c (.mk j k d as ks)
    · have hc := hnd c
      rw [cnt_mk] at hc
      have := removeInL_some_pos h
      have := ih (distinct_attrs hnd) p (by rw [h]; rw [removeIn_attr h] at hx; exact hx)
      rw [h] at this
      rw [removeIn_attr h, findIn_mk_ne hp, findIn_mk_ne hp, findInL_append, findInL_append, Option.map_or, this,
        findInL_map_removeIn c p ks (by omega)]
  · intro j k d as ks as' h ks' x _ _ ih hnd _ p hx
    by_cases hp : j = p
    · subst hp; exact findIn_removeIn_root c (.mk j k d as ks)
    · have := ih (distinct_kids hnd) p (by rwa [removeIn_kid h] at hx)
      rw [removeIn_kid h, findIn_mk_ne hp, findIn_mk_ne hp, findInL_append, findInL_append, Option.map_or, this,
        findInL_map_removeIn c p as (removeInL_none_zero h)]
  · intro _ p _; rw [removeInL_nil, findInL_nil]; rfl
  · intro n r h hnd p hx
    have hc := hnd c
    have := cnt_id_pos n
    rw [cntL_cons] at hc
    rw [beq_iff_eq.mp h] at this
    rw [removeInL_hit h] at hx ⊢
    rw [findInL_cons, findIn_none p n (hx n rfl), Option.none_or, findInL_map_removeIn c p r (by omega)]
  · intro n r h n' x h' ih hnd p hx
    have hc := hnd c
    rw [cntL_cons] at hc
    have := removeIn_some_pos h h'
    have := ih (distinct_head hnd) (by simpa using h) p (by rw [h']; rw [removeInL_in h h'] at hx; exact hx)
    rw [h'] at this
    rw [removeInL_in h h', findInL_cons, findInL_cons, Option.map_or, this, findInL_map_removeIn c p r (by omega)]
  · intro n r h n' h' r' x _ _ ih hnd p hx
    have := ih (distinct_tail hnd) p (by rwa [removeInL_out h h'] at hx)
    rw [removeInL_out h h', findInL_cons, findInL_cons, Option.map_or, this, findIn_map_removeIn c p n (removeIn_none_zero h h')]

theorem findIn_removeIn (p c : Nat) : (t pn : Node) → (∀ a, cnt a t ≤ 1) → t.id ≠ c → findIn p t = some pn →
    (∀ x, (removeIn c t).2 = some x → cnt p x = 0) → findIn p (removeIn c t).1 = some (removeIn c pn).1 := by
  intro t pn hnd hne hf hx
  rw [(find_remove c).1 t hnd hne p hx, hf]; rfl

/-- after `c` was taken out, any node `p` outside `c`'s subtree is found as before, minus `c` below it -/
theorem find_after_detach (s s1 : St) (c p : Nat) (x pn : Node) (hnd : ∀ a, cntL a s.roots ≤ 1) (hne : s.doc.id ≠ c)
    (h : s.detach c = (s1, some x)) (hp : s.find p = some pn) (hpx : cnt p x = 0) :
    s1.find p = some (removeIn c pn).1 := by
  obtain ⟨hr, hx⟩ := detach_eq_removeInL hnd hne h
  unfold St.find at hp ⊢
  rw [hr, (find_remove c).2 s.roots hnd p (fun y hy => by rw [← hx] at hy; cases hy; exact hpx), hp]; rfl

/-- a function on nodes that keeps the id of the node it is applied to -/
def KeepsId (f : Node → Node) : Prop := ∀ n, (f n).id = n.id

/-- FIND AFTER UPDATE: what is found under `i` afterwards is what was found before, updated (distinct ids are not needed:
    the first node with id `i` is the one found, before and after) -/
theorem findInL_updateInL (i : Nat) (f : Node → Node) (hf : KeepsId f) (l : List Node) :
    findInL i (updateInL i f l) = (findInL i l).map f := by
  induction l using forest_induct with
  | nil => rw [updateInL_nil, findInL_nil]; rfl
  | cons j k d as ks r _ _ ihS ihR =>
    rw [updateInL_cons, findInL_cons, findInL_cons, Option.map_or, ihR]
    by_cases hj : j = i
    · subst hj
      have : findIn j (f (.mk j k d as ks)) = some (f (.mk j k d as ks)) := by
        have := findIn_root (f (.mk j k d as ks)); rwa [hf] at this
      rw [updateIn_mk_self, findIn_mk_self, this]; rfl
    · rw [updateIn_mk_ne hj, findIn_mk_ne hj, findIn_mk_ne hj, ← updateInL_append, ihS]

theorem findIn_updateIn (i : Nat) (f : Node → Node) (hf : KeepsId f) : (t nn : Node) → (∀ a, cnt a t ≤ 1) →
    findIn i t = some nn → findIn i (updateIn i f t) = some (f nn) := by
  intro t nn _ h
  have := findInL_updateInL i f hf [t]
  rwa [updateInL_cons, updateInL_nil, findInL_singleton, findInL_singleton, h] at this

theorem find_update (s : St) (i : Nat) (f : Node → Node) (hf : KeepsId f) (nn : Node) (_ : ∀ a, cntL a s.roots ≤ 1)
    (h : s.find i = some nn) : (s.update i f).find i = some (f nn) := by
  unfold St.find at h ⊢
  rw [update_roots, findInL_updateInL i f hf, h]; rfl

/-- the ids of a child list after `insertBeforeL` -/
def insertBeforeIds (c : Nat) (ref : Option Nat) : List Nat → List Nat
  | [] => [c]
  | n :: r => match ref with
    | some i => if n == i then c :: n :: r else n :: insertBeforeIds c ref r
    | none => n :: insertBeforeIds c ref r

theorem insertBeforeL_ids (x : Node) (ref : Option Nat) (l : List Node) :
    (insertBeforeL x ref l).map (·.id) = insertBeforeIds x.id ref (l.map (·.id)) := by
  induction l with
  | nil => simp [insertBeforeL, insertBeforeIds]
  | cons n r ih =>
    cases ref with
    | none => simp [insertBeforeL, insertBeforeIds, ih]
    | some i =>
      simp only [insertBeforeL, List.map_cons, insertBeforeIds]
      split <;> simp [ih]

theorem insertBeforeIds_none (c : Nat) (l : List Nat) : insertBeforeIds c none l = l ++ [c] := by
  induction l with
  | nil => rfl
  | cons n r ih => simp [insertBeforeIds, ih]

/-! ### a node of the forest is determined by its id -/
theorem isSub_cnt (m : Node) (a : Nat) : (t : Node) → isSub m t → cnt a m ≤ cnt a t := by
  intro t h
  rw [← cntL_singleton a t]; exact isSubL_cnt m a [t] ((isSubL_singleton m t).mpr h)

theorem findIn_of_isSub (m : Node) : (t : Node) → (∀ a, cnt a t ≤ 1) → isSub m t → findIn m.id t = some m := by
  intro t hnd h
  rw [← findInL_singleton]
  exact findInL_of_isSubL m [t] (by rw [cntL_singleton]; exact hnd m.id) ((isSubL_singleton m t).mpr h)

theorem isSub_of_findIn (i : Nat) : (t n : Node) → findIn i t = some n → isSub n t := by
  intro t n h
  rw [← findInL_singleton] at h
  exact (isSubL_singleton n t).mp (isSubL_of_findInL h)

theorem isSubL_trans (a b : Node) (l : List Node) (hab : isSub a b) (h : isSubL b l) : isSubL a l := by
  induction l using forest_induct with
  | nil => cases h
  | cons j k d as ks r _ _ ihS ihR =>
    rcases (isSubL_cons_mk ..).mp h with rfl | h | h
    · exact (isSubL_cons ..).mpr (.inl hab)
    · exact (isSubL_cons_mk ..).mpr (.inr (.inl (ihS h)))
    · exact (isSubL_cons_mk ..).mpr (.inr (.inr (ihR h)))

theorem isSub_trans (a b : Node) : (t : Node) → isSub a b → isSub b t → isSub a t := by
  intro t hab hbt
  exact (isSubL_singleton a t).mp (isSubL_trans a b [t] hab ((isSubL_singleton b t).mpr hbt))

theorem kid_isSub (k pn : Node) (h : k ∈ pn.kids) : isSub k pn := by
  cases pn with
  | mk j kd d as ks => exact .inr (.inr (isSubL_of_mem k ks h))

theorem find_kid (s : St) (hnd : ∀ a, cntL a s.roots ≤ 1) (p : Nat) (pn k : Node) (hp : s.find p = some pn)
    (hk : k ∈ pn.kids) : s.find k.id = some k :=
  findInL_of_isSubL k s.roots (hnd k.id) (isSubL_trans k pn s.roots (kid_isSub k pn hk) (isSubL_of_findInL hp))

theorem findInL_append_left (i : Nat) (n : Node) (l r : List Node) (h : findInL i l = some n) : findInL i (l ++ r) = some n := by
  rw [findInL_append, h]; rfl

/-- EFFECT of a successful `removeChild` (DOM Level 1: "removes the child node indicated by oldChild from
    the list of children, and returns it"): the parent keeps its other children in their order, and the
    removed node — the very subtree that was found under its id — is now the root of a detached tree -/
theorem removeChild_effect (s s' : St) (p c c' : Nat) (hi : Inv s) (h : removeChild s p c = (s', .node c')) :
    ∃ pn pn' cn, s.find p = some pn ∧ s.find c = some cn ∧ s'.find p = some pn' ∧
      pn'.kids.map (·.id) = (pn.kids.map (·.id)).filter (· != c) ∧ cn ∈ s'.detached := by
  obtain ⟨pn, s1, x, hp, hdoc, hany, hd, rfl⟩ := removeChild_ok h
  have hne : s.doc.id ≠ c := by intro he; rw [he] at hdoc; simp at hdoc
  have hfx := detach_find hi.1 hne hd
  -- the child with id c in p's child list is the node found under c
  obtain ⟨k, hk, hkc⟩ := List.any_eq_true.mp hany
  have hfk := find_kid s hi.1 p pn k hp hk
  rw [beq_iff_eq.mp hkc] at hfk
  rw [hfk, Option.some.injEq] at hfx
  subst hfx
  -- p is not below its own child
  have hpn := findInL_some hp
  have hndpn : ∀ a, cnt a pn ≤ 1 := fun a => Nat.le_trans (hpn.2 a) (hi.1 a)
  have hx : cnt p k = 0 := by
    have h1 := isSubL_cnt k p pn.kids (isSubL_of_mem k pn.kids hk)
    have h2 := cnt_eq_below p pn
    have h3 := hndpn p
    rw [hpn.1, beq_self_eq_true, if_pos rfl] at h2
    unfold below at h2
    omega
  have hp1 := find_after_detach s s1 c p k pn hi.1 hne hd hp hx
  exact ⟨pn, (removeIn c pn).1, k, hp, hfk, findInL_append_left p _ s1.roots [k] hp1, removeIn_kids_ids c pn hndpn,
    mem_append_right _ (mem_singleton_self k)⟩

/-- what a data edit may not change of any OTHER node: its identity, its kind, its data -/
def sigD (n : Node) : Nat × Kind × Str := (n.id, n.kind, n.data)

theorem findInL_updateInL_other (i m : Nat) (d : Str) (hne : m ≠ i) : (l : List Node) →
    (findInL m (updateInL i (Node.withData d) l)).map sigD = (findInL m l).map sigD := by
  intro l
  induction l using forest_induct with
  | nil => rw [updateInL_nil]
  | cons j k dd as ks r _ _ ihS ihR =>
    rw [updateInL_cons, findInL_cons, findInL_cons, Option.map_or, Option.map_or, ihR]
    congr 1
    by_cases hj : j = i
    · subst hj
      rw [updateIn_mk_self, Node.withData, findIn_mk_ne (Ne.symm hne), findIn_mk_ne (Ne.symm hne)]
    · rw [updateIn_mk_ne hj]
      by_cases hm : j = m
      · subst hm; rw [findIn_mk_self, findIn_mk_self]; rfl
      · rw [findIn_mk_ne hm, findIn_mk_ne hm, ← updateInL_append, ihS]

theorem findIn_updateIn_other (i m : Nat) (d : Str) (hne : m ≠ i) : (t : Node) →
    (findIn m (updateIn i (Node.withData d) t)).map sigD = (findIn m t).map sigD := by
  intro t
  have := findInL_updateInL_other i m d hne [t]
  rwa [updateInL_cons, updateInL_nil, findInL_singleton, findInL_singleton] at this

/-! ### replaceChild: the list algebra and the glue between node lists and id lists -/
theorem map_replace_id (old new : Nat) (l : List Nat) (h : old ∉ l) : l.map (fun x => if x = old then new else x) = l :=
  (map_congr_left fun x hx => if_neg fun e : x = old => h (e ▸ hx)).trans (map_id' l)

theorem insertBeforeIds_head (c : Nat) : ∀ (l : List Nat), insertBeforeIds c l.head? l = c :: l
  | [] => rfl
  | x :: r => by simp [insertBeforeIds]

/-- the reference child is looked for behind the prefix only when it is not in the prefix -/
theorem insertBeforeIds_append (c : Nat) (ref : Option Nat) (a b : List Nat) (h : ∀ i, ref = some i → i ∉ a) :
    insertBeforeIds c ref (a ++ b) = a ++ insertBeforeIds c ref b := by
  induction a with
  | nil => rfl
  | cons x r ih =>
    have ih := ih fun i hi hm => h i hi (mem_cons_of_mem x hm)
    cases ref with
    | none => rw [cons_append, insertBeforeIds, ih, cons_append]
    | some i =>
      have : (x == i) = false := by simpa using fun e : x = i => h i rfl (e ▸ mem_cons_self)
      simp only [cons_append, insertBeforeIds, this, Bool.false_eq_true, if_false, ih]

/-- `old` cuts the child list in two: taking `old` out and putting `new` in front of what followed it is writing
    `new` over `old` -/
theorem replace_ids (old new : Nat) (hne : new ≠ old) (L : List Nat) (hnd : L.Nodup) (hm : old ∈ L) :
    insertBeforeIds new ((((L.dropWhile (· != old)).drop 1).filter (· != new)).head?) ((L.filter (· != old)).filter (· != new))
      = (L.filter (· != new)).map (fun x => if x = old then new else x) := by
  obtain ⟨a, b, rfl⟩ := mem_iff_append.mp hm
  obtain ⟨_, hb, hab⟩ := nodup_append.mp hnd
  have ha : old ∉ a := fun h => hab old h old mem_cons_self rfl
  have hob : old ∉ b := (nodup_cons.mp hb).1
  have hfa : a.filter (· != old) = a := filter_eq_self.mpr fun x hx => by simpa using fun e : x = old => ha (e ▸ hx)
  have hfb : b.filter (· != old) = b := filter_eq_self.mpr fun x hx => by simpa using fun e : x = old => hob (e ▸ hx)
  rw [dropWhile_append_of_pos (fun x hx => by simpa using fun e : x = old => ha (e ▸ hx)),
    dropWhile_cons_of_neg (by simp), drop_one, tail_cons,
    filter_append, filter_cons_of_neg (by simp), hfa, hfb, filter_append, filter_append,
    filter_cons_of_pos (by simpa using Ne.symm hne), map_append, map_cons, if_pos rfl,
    map_replace_id old new _ (fun h => ha (mem_filter.mp h).1), map_replace_id old new _ (fun h => hob (mem_filter.mp h).1),
    insertBeforeIds_append, insertBeforeIds_head]
  intro i hi hia
  exact hab i (mem_filter.mp hia).1 i (mem_cons_of_mem old (mem_filter.mp (mem_of_mem_head? hi)).1) rfl

theorem kids_ids_nodup (s : St) (hi : Inv s) (p : Nat) (pn : Node) (hp : s.find p = some pn) : (pn.kids.map (·.id)).Nodup := by
  rw [List.nodup_iff_count]
  intro a
  have h1 := isSubL_cnt pn a s.roots (isSubL_of_findInL hp)
  have h2 := hi.1 a
  have h3 := cntL_kids_le a pn
  have h4 := cntL_split a pn.kids
  rw [rootCnt_eq_count] at h4
  omega

theorem ref_ids (pn : Node) (old new : Nat) :
    ((((pn.kids.dropWhile (·.id != old)).drop 1).filter (·.id != new)).head?.map (·.id))
      = ((((pn.kids.map (·.id)).dropWhile (· != old)).drop 1).filter (· != new)).head? := by
  rw [dropWhile_map, ← map_drop, filter_map, head?_map]; rfl

end XmlRs.Dom
