import XmlRsModel.Lemmas.RunsDtdDecl
/-! Completeness of attribute-list, entity and notation declarations. -/
namespace XmlRs.Lex
open XmlRs Gen.Xml XmlRs.Names

theorem close_stops_nc {w : Str} (hw : okWs w = true) (Y : Str) : Stops P.isNameChar (w ++ '>' :: Y) :=
  .ws nc_space hw fun _ => .cons _ (by decide)

def cstAttlist (w0 : Str) (e : QN) (defs : List CAttDef) (w1 : Str) : CST :=
  .node N.attlist_decl (.seq [.seq [.leaf kwATTLIST, .leaf w0], .seq [cstQN e, .many (defs.map cstAttDef)], .seq [.leaf w1, .leaf ['>']]])

theorem att_def_fails_at_close {w : Str} (hw : okWs w = true) (Y : Str) : Runs env (.nt N.att_def) (w ++ '>' :: Y) .fail :=
  Runs.nt_fail_of env_att_def (Runs.seq_fail_head (Runs.seq_fail (ws1_then_fails hw (.cons _ sp_gt)
    (Runs.alt (.skip (runs_qname_fail_ns (.cons _ (by decide))) (.skip (ns_att_name_fails rfl) (.nil _)))))))

theorem runs_att_defs : ∀ (defs : List CAttDef) (w1 Y : Str), defs.all okAttDef = true → okWs w1 = true →
    RunsMany env (.nt N.att_def) (attDefsText defs ++ (w1 ++ '>' :: Y)) (.ok (defs.map cstAttDef) (w1 ++ '>' :: Y))
  | [], w1, Y, _, hw => .stop (att_def_fails_at_close hw Y)
  | a :: r, w1, Y, h, hw => by
    simp only [List.all_cons, Bool.and_eq_true] at h
    simp only [attDefsText, List.map_cons, List.append_assoc]
    refine .step (runs_att_def h.1 _) ?_ (runs_att_defs r w1 Y h.2 hw)
    have := List.length_pos_iff.mpr (okWs1_parts (okAttDef_parts h.1).1).1
    simp only [CAttDef.str, List.length_append] at this ⊢
    omega

theorem stops_nc_attdefs (defs : List CAttDef) (w1 Y : Str) (h : defs.all okAttDef = true) (hw : okWs w1 = true) :
    Stops P.isNameChar (attDefsText defs ++ (w1 ++ '>' :: Y)) := by
  cases defs with
  | nil => exact close_stops_nc hw Y
  | cons a r =>
    simp only [List.all_cons, Bool.and_eq_true] at h
    simp only [attDefsText, CAttDef.str, List.append_assoc]
    exact .ws1 nc_space (okAttDef_parts h.1).1 _

theorem okDtd_attlist {w0 : Str} {e : QN} {defs : List CAttDef} {w1 : Str} (h : okDtdItem (.attlist w0 e defs w1) = true) :
    okWs1 w0 = true ∧ okQN e = true ∧ defs.all okAttDef = true ∧ okWs w1 = true := by
  simpa only [okDtdItem, Bool.and_eq_true, and_assoc] using h

theorem runs_attlist {w0 : Str} {e : QN} {defs : List CAttDef} {w1 : Str} (h : okDtdItem (.attlist w0 e defs w1) = true) (Y : Str) :
    Runs env (.nt N.attlist_decl) ((CDtdItem.attlist w0 e defs w1).str ++ Y) (.ok (cstAttlist w0 e defs w1) Y) := by
  obtain ⟨h0, he, hd, h1⟩ := okDtd_attlist h
  simp only [CDtdItem.str, List.append_assoc, List.cons_append, List.nil_append]
  exact Runs.nt_of env_attlist_decl
    (Runs.seq3 (runs_tag_ws1 kwATTLIST h0 (stops_space_name he _))
      (Runs.seq2 (runs_qname he (stops_nc_attdefs defs w1 Y hd h1)) (Runs.many (runs_att_defs defs w1 Y hd h1))) (runs_close h1 Y))

def cstNdata : Option (Str × Str × Str) → CST
  | none => .seq []
  | some (a, b, n) => .node N.ndata_decl (.seq [.seq [.leaf a, .leaf kwNDATA, .leaf b], cstName n])

def cstEntDef : CEntDef → CST
  | .internal q vals => .node N.entity_def (cstEntityValue q vals)
  | .external id nd => .node N.entity_def (.seq [cstExtId id, cstNdata nd])

def cstEntity (w0 n w1 : Str) (d : CEntDef) (w2 : Str) : CST :=
  .node N.entity_decl (.node N.ge_decl (.seq [.seq [.seq [.leaf kwENTITY, .leaf w0], cstName n, .leaf w1], .seq [cstEntDef d, .seq [.leaf w2, .leaf ['>']]]]))

theorem okNameTok_stops_space {n : Str} (h : okNameTok n = true) (Y : Str) : Stops P.isSpace (n ++ Y) :=
  .of_head space_not_nameChar (okNameTok_head h) Y

theorem extId_stops {p : Char → Bool} (hS : p 'S' = false) (hP : p 'P' = false) (id : CExtId) (Y : Str) : Stops p (id.str ++ Y) := by
  cases id with
  | sysId => exact .cons _ hS
  | pubId => exact .cons _ hP

theorem runs_ent_def {d : CEntDef} (h : okEntDef d = true) {w2 : Str} (hw2 : okWs w2 = true) (Y : Str) :
    Runs env (.nt N.entity_def) (d.str ++ (w2 ++ '>' :: Y)) (.ok (cstEntDef d) (w2 ++ '>' :: Y)) := by
  cases d with
  | internal q vals =>
    simp only [okEntDef, Bool.and_eq_true, Bool.not_eq_true'] at h
    simp only [CEntDef.str, List.append_assoc, List.cons_append, List.nil_append]
    exact Runs.nt_of env_entity_def (Runs.alt (.hit (runs_entity_value q h.1.1 vals _ h.1.2 h.2)))
  | external id nd =>
    simp only [okEntDef, Bool.and_eq_true] at h
    have hev : ∀ X, Runs env (.nt N.entity_value) (id.str ++ X) .fail := fun X =>
      entity_value_fails (extId_stops (by decide) (by decide) id X) (extId_stops (by decide) (by decide) id X)
    cases nd with
    | none =>
      simp only [CEntDef.str, List.append_nil]
      exact Runs.nt_of env_entity_def
        (Runs.alt (.skip (hev _)
          (.hit (Runs.seq2 (runs_external_id h.1 _) (Runs.opt_none (Runs.nt_fail_of env_ndata_decl (Runs.seq_fail_head (Runs.seq_fail
          (ws1_then_fails hw2 (.cons _ sp_gt) (Runs.tag_fail (strip_cons_ne _ _ (by decide))))))))))))
    | some v =>
      obtain ⟨a, b, n⟩ := v
      simp only [Bool.and_eq_true] at h
      obtain ⟨hid, ⟨ha, hb⟩, hn⟩ := h
      simp only [CEntDef.str, List.append_assoc]
      exact Runs.nt_of env_entity_def
        (Runs.alt (.skip (hev _)
          (.hit (Runs.seq2 (runs_external_id hid _)
            (Runs.opt_some (Runs.nt_of env_ndata_decl
              (Runs.seq2 (Runs.seq3 (runs_ws1 ha (.cons _ (by decide))) (Runs.tag_ok kwNDATA _) (runs_ws1 hb (okNameTok_stops_space hn _)))
                (runs_name (okNameTok_parts hn).2 (close_stops_nc hw2 Y)))))))))

theorem entDef_stops_space {d : CEntDef} (h : okEntDef d = true) (Y : Str) : Stops P.isSpace (d.str ++ Y) := by
  cases d with
  | internal q vals =>
    simp only [okEntDef, Bool.and_eq_true] at h
    exact .cons _ (sp_of_quote h.1.1)
  | external id nd =>
    simp only [CEntDef.str, List.append_assoc]
    exact extId_stops (by decide) (by decide) id _

theorem okDtd_entity {w0 n w1 : Str} {d : CEntDef} {w2 : Str} (h : okDtdItem (.entity w0 n w1 d w2) = true) :
    okWs1 w0 = true ∧ okNameTok n = true ∧ okWs1 w1 = true ∧ okEntDef d = true ∧ okWs w2 = true := by
  simpa only [okDtdItem, Bool.and_eq_true, and_assoc] using h

theorem runs_entity {w0 n w1 : Str} {d : CEntDef} {w2 : Str} (h : okDtdItem (.entity w0 n w1 d w2) = true) (Y : Str) :
    Runs env (.nt N.entity_decl) ((CDtdItem.entity w0 n w1 d w2).str ++ Y) (.ok (cstEntity w0 n w1 d w2) Y) := by
  obtain ⟨h0, hn, h1, hd, h2⟩ := okDtd_entity h
  simp only [CDtdItem.str, List.append_assoc, List.cons_append, List.nil_append]
  exact Runs.nt_of env_entity_decl
    (Runs.alt (.hit (Runs.nt_of env_ge_decl
      (Runs.seq2 (Runs.seq3 (runs_tag_ws1 kwENTITY h0 (okNameTok_stops_space hn _)) (runs_name (okNameTok_parts hn).2 (.ws1 nc_space h1 _))
        (runs_ws1 h1 (entDef_stops_space hd _))) (Runs.seq2 (runs_ent_def hd h2 Y) (runs_close h2 Y))))))

def cstNotId : CNotId → CST
  | .ext id => cstExtId id
  | .pubOnly w q p => .node N.public_id (.seq [.seq [.leaf kwPUBLIC, .leaf w], cstPubLit q p])

def cstNotation (w0 n w1 : Str) (id : CNotId) (w2 : Str) : CST :=
  .node N.notation_decl (.seq [.seq [.seq [.leaf kwNOTATION, .leaf w0], cstName n], .seq [.leaf w1, cstNotId id, .seq [.leaf w2, .leaf ['>']]]])

theorem runs_not_id {id : CNotId} (h : okNotId id = true) {w2 : Str} (hw2 : okWs w2 = true) (Y : Str) :
    Runs env (.alt [.nt N.external_id, .nt N.public_id]) (id.str ++ (w2 ++ '>' :: Y)) (.ok (cstNotId id) (w2 ++ '>' :: Y)) := by
  cases id with
  | ext id => exact Runs.alt (.hit (runs_external_id h _))
  | pubOnly w q p =>
    simp only [okNotId, Bool.and_eq_true] at h
    obtain ⟨⟨hw, hq⟩, hp⟩ := h
    simp only [CNotId.str, List.append_assoc, List.cons_append, List.nil_append]
    exact Runs.alt (.skip (external_id_fails_on_public hw hq hp hw2 Y)
      (.hit (Runs.nt_of env_public_id (Runs.seq2 (runs_tag_ws1 kwPUBLIC hw (.cons _ (sp_of_quote hq))) (runs_pubid_literal hq hp _)))))

theorem notId_stops_space (id : CNotId) (Y : Str) : Stops P.isSpace (id.str ++ Y) := by
  cases id with
  | ext id => exact extId_stops (by decide) (by decide) id Y
  | pubOnly w q p => exact .cons _ (by decide)

theorem okDtd_notation {w0 n w1 : Str} {id : CNotId} {w2 : Str} (h : okDtdItem (.notationDecl w0 n w1 id w2) = true) :
    okWs1 w0 = true ∧ okNameTok n = true ∧ okWs1 w1 = true ∧ okNotId id = true ∧ okWs w2 = true := by
  simpa only [okDtdItem, Bool.and_eq_true, and_assoc] using h

theorem runs_notation {w0 n w1 : Str} {id : CNotId} {w2 : Str} (h : okDtdItem (.notationDecl w0 n w1 id w2) = true) (Y : Str) :
    Runs env (.nt N.notation_decl) ((CDtdItem.notationDecl w0 n w1 id w2).str ++ Y) (.ok (cstNotation w0 n w1 id w2) Y) := by
  obtain ⟨h0, hn, h1, hid, h2⟩ := okDtd_notation h
  simp only [CDtdItem.str, List.append_assoc, List.cons_append, List.nil_append]
  exact Runs.nt_of env_notation_decl
    (Runs.seq2 (Runs.seq2 (runs_tag_ws1 kwNOTATION h0 (okNameTok_stops_space hn _)) (runs_name (okNameTok_parts hn).2 (.ws1 nc_space h1 _)))
      (Runs.seq3 (runs_ws1 h1 (notId_stops_space id _)) (runs_not_id hid h2 Y) (runs_close h2 Y)))

end XmlRs.Lex
