import XmlRsModel.Lemmas.AbsContent
/-! Depth facts of the trees of a DOCTYPE declaration: only content models hold `children` nodes, nothing holds `element` nodes. -/
namespace XmlRs.Lex
open XmlRs Gen.Xml XmlRs.Names

@[depth_simp] theorem noEl_sepCsts {α : Type} (cst : α → CST) (h : ∀ x, noEl (cst x) = true) (rest : List (Str × Str × α)) :
    noElL (sepCsts cst rest) = true :=
  noElL_map _ _ fun y => by simp only [cstBar, h, depth_simp]

@[depth_simp] theorem noEl_nmtoken (n : Str) : noEl (cstNmtoken n) = true := by simp +decide only [cstNmtoken, depth_simp]

@[depth_simp] theorem noEl_attType (t : CAttType) : noEl (cstAttType t) = true := by
  cases t <;> simp +decide only [cstAttType, depth_simp]

@[depth_simp] theorem noEl_default (d : CDefault) : noEl (cstDefault d) = true := by
  cases d with
  | value fixed q vals => cases fixed <;> simp +decide only [cstDefault, depth_simp]
  | _ => rfl

@[depth_simp] theorem noEl_attDef (a : CAttDef) : noEl (cstAttDef a) = true := by simp +decide only [cstAttDef, depth_simp]

@[depth_simp] theorem noEl_sysLit (q : Char) (l : Str) : noEl (cstSysLit q l) = true := by simp +decide only [cstSysLit, depth_simp]

@[depth_simp] theorem noEl_pubLit (q : Char) (p : Str) : noEl (cstPubLit q p) = true := by
  simp only [cstPubLit]; split <;> simp +decide only [depth_simp]

@[depth_simp] theorem noEl_extId (id : CExtId) : noEl (cstExtId id) = true := by
  cases id <;> simp +decide only [cstExtId, depth_simp]

@[depth_simp] theorem noEl_pieceE (pc : Piece) : noEl (cstPieceE pc) = true := by
  cases pc with
  | text s => rfl
  | peRef n => simp +decide only [cstPieceE, cstPeRef, depth_simp]
  | _ => simp only [cstPieceE, depth_simp]

@[depth_simp] theorem noEl_entDef (d : CEntDef) : noEl (cstEntDef d) = true := by
  cases d with
  | internal q vals => simp +decide only [cstEntDef, cstEntityValue, depth_simp]
  | external id nd =>
    cases nd with
    | none => simp +decide only [cstEntDef, cstNdata, depth_simp]
    | some v => obtain ⟨a, b, n⟩ := v; simp +decide only [cstEntDef, cstNdata, depth_simp]

@[depth_simp] theorem noEl_notId (id : CNotId) : noEl (cstNotId id) = true := by
  cases id <;> simp +decide only [cstNotId, depth_simp]

@[depth_simp] theorem noEl_attlist (w0 : Str) (e : QN) (defs : List CAttDef) (w1 : Str) : noEl (cstAttlist w0 e defs w1) = true := by
  simp +decide only [cstAttlist, depth_simp]

@[depth_simp] theorem noEl_entity (w0 n w1 : Str) (d : CEntDef) (w2 : Str) : noEl (cstEntity w0 n w1 d w2) = true := by
  simp +decide only [cstEntity, depth_simp]

@[depth_simp] theorem noEl_notation (w0 n w1 : Str) (id : CNotId) (w2 : Str) : noEl (cstNotation w0 n w1 id w2) = true := by
  simp +decide only [cstNotation, depth_simp]

@[depth_simp] theorem noEl_occ (o : Occ) : noEl (cstOcc o) = true := by cases o <;> rfl
@[depth_simp] theorem noEl_sep (ch : Bool) (a b : Str) : noEl (cstSep ch a b) = true := by
  simp only [cstSep, depth_simp]

mutual
def noElem : CST → Bool
  | .leaf _ => true
  | .node n c => n != N.element && noElem c
  | .seq ks => noElemL ks
  | .many ks => noElemL ks
def noElemL : List CST → Bool
  | [] => true
  | c :: cs => noElem c && noElemL cs
end

attribute [depth_simp] noElem noElemL

mutual
theorem noElem_depth : ∀ c : CST, noElem c = true → c.elemDepth = 0
  | .leaf _, _ => rfl
  | .node n c, h => by
    simp only [noElem, Bool.and_eq_true, bne_iff_ne, ne_eq, ← beq_eq_false_iff_ne] at h
    simpa only [CST.elemDepth, h.1, Bool.false_eq_true, if_false] using noElem_depth c h.2
  | .seq ks, h => noElemL_depth ks h
  | .many ks, h => noElemL_depth ks h
theorem noElemL_depth : ∀ cs : List CST, noElemL cs = true → elemDepthL cs = 0
  | [], _ => rfl
  | c :: cs, h => by
    simp only [noElemL, Bool.and_eq_true] at h
    simp only [elemDepthL, noElem_depth c h.1, noElemL_depth cs h.2, Nat.max_self]
end

mutual
theorem noElem_of_noEl : ∀ c : CST, noEl c = true → noElem c = true
  | .leaf _, _ => rfl
  | .node n c, h => by
    simp only [noEl, Bool.and_eq_true] at h
    simp only [noElem, h.1.1, noElem_of_noEl c h.2, Bool.and_self]
  | .seq ks, h => noElemL_of_noElL ks h
  | .many ks, h => noElemL_of_noElL ks h
theorem noElemL_of_noElL : ∀ cs : List CST, noElL cs = true → noElemL cs = true
  | [], _ => rfl
  | c :: cs, h => by
    simp only [noElL, Bool.and_eq_true] at h
    simp only [noElemL, noElem_of_noEl c h.1, noElemL_of_noElL cs h.2, Bool.and_self]
end

attribute [depth_simp] noElem_of_noEl noElemL_of_noElL

theorem mid_depth (ch : Bool) (tl : List CST) :
    (groupMid ch tl).ntDepth N.children = ntDepthL N.children tl ∧ noElem (groupMid ch tl) = noElemL tl := by
  cases ch with
  | false => exact ⟨rfl, rfl⟩
  | true => cases tl <;> simp only [groupMid, if_true, depth_simp, Bool.and_true]

mutual
theorem cp_depth : ∀ p : CCp, noElem (cstCp p) = true ∧ (cstCp p).ntDepth N.children = p.gdepth
  | .name n o => by simp +decide only [cstCp, CCp.gdepth, depth_simp]
  | .group w0 f ch rest w1 o => by
    have hf := cp_depth f
    have ht := tail_depth ch rest
    have hm := mid_depth ch (cstTail ch rest)
    rw [cstCp_group]
    simp +decide only [mkGroupBody, CCp.gdepth, depth_simp, hf.1, hf.2, hm.1, hm.2, ht.1, ht.2]
theorem tail_depth : ∀ (ch : Bool) (t : CCpTail), noElemL (cstTail ch t) = true ∧ ntDepthL N.children (cstTail ch t) = t.gdepth
  | ch, .nil => by simp only [cstTail, CCpTail.gdepth, depth_simp]
  | ch, .cons a b p t => by
    have hp := cp_depth p
    have ht := tail_depth ch t
    simp only [cstTail, CCpTail.gdepth, depth_simp, hp.1, hp.2, ht.1, ht.2]
end

end XmlRs.Lex
