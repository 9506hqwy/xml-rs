import XmlRsModel.Lemmas.DomStep
/-! The initial state of a history (a parsed document numbered in pre-order) satisfies the invariant:
    the ids of the tree built from `start` are exactly the interval `[start, end)`, each once. -/
namespace XmlRs.Dom
open List

theorem buildAttrs_spec (start : Nat) (as : List Attr) :
    start ≤ (buildAttrs start as).2 ∧ ∀ a, cntL a (buildAttrs start as).1 = ivl start (buildAttrs start as).2 a := by
  induction as generalizing start with
  | nil => exact ⟨Nat.le_refl _, cntL_nil_ivl start⟩
  | cons x r ih =>
    simp only [buildAttrs]
    by_cases hns : isNsDecl x.name = true
    · rw [if_pos hns]; exact ih start
    · obtain ⟨m1, m2⟩ := mkItems_spec (start + 1) x.vals
      obtain ⟨r1, r2⟩ := ih (mkItems (start + 1) x.vals).2
      rw [if_neg hns]
      exact ⟨by omega, cntL_cons_ivl (by omega) r1 (cnt_mk_ivl (Nat.le_refl _) m1 (cntL_nil_ivl _) m2 _ _) r2⟩

theorem build_spec :
    (∀ start i, start < (buildNode start i).2 ∧ ∀ a, cnt a (buildNode start i).1 = ivl start (buildNode start i).2 a) ∧
    (∀ start l, start ≤ (buildNodes start l).2 ∧ ∀ a, cntL a (buildNodes start l).1 = ivl start (buildNodes start l).2 a) := by
  apply buildNode.mutual_induct
  · exact fun next _ => ⟨Nat.lt_succ_self _, leaf_ivl next _ _⟩
  · exact fun next _ => ⟨Nat.lt_succ_self _, leaf_ivl next _ _⟩
  · exact fun next _ => ⟨Nat.lt_succ_self _, leaf_ivl next _ _⟩
  · exact fun next _ _ => ⟨Nat.lt_succ_self _, leaf_ivl next _ _⟩
  · exact fun next _ _ => ⟨Nat.lt_succ_self _, leaf_ivl next _ _⟩
  · exact fun next _ => ⟨Nat.lt_succ_self _, leaf_ivl next _ _⟩
  · intro next q attrs kids
    dsimp only
    intro ⟨k1, k2⟩
    obtain ⟨a1, a2⟩ := buildAttrs_spec (next + 1) attrs
    simp only [buildNode]
    exact ⟨by omega, cnt_mk_ivl a1 k1 a2 k2 _ _⟩
  · exact fun next => ⟨Nat.le_refl _, cntL_nil_ivl next⟩
  · intro next k r
    dsimp only
    intro ⟨x1, x2⟩ ⟨r1, r2⟩
    simp only [buildNodes]
    exact ⟨by omega, cntL_cons_ivl (Nat.le_of_lt x1) r1 x2 r2⟩

theorem buildNodes_spec (start : Nat) : (l : List Item) →
    start ≤ (buildNodes start l).2 ∧ ∀ a, cntL a (buildNodes start l).1 = ivl start (buildNodes start l).2 a :=
  build_spec.2 start

theorem buildTop_spec (start : Nat) (t : TopItem) :
    start < (buildTop start t).2 ∧ ∀ a, cnt a (buildTop start t).1 = ivl start (buildTop start t).2 a := by
  cases t with
  | elem e => exact build_spec.1 start e
  | _ => exact ⟨Nat.lt_succ_self _, leaf_ivl _ _ _⟩

theorem buildTops_spec (start : Nat) (l : List TopItem) :
    start ≤ (buildTops start l).2 ∧ ∀ a, cntL a (buildTops start l).1 = ivl start (buildTops start l).2 a := by
  induction l generalizing start with
  | nil => exact ⟨Nat.le_refl _, cntL_nil_ivl start⟩
  | cons t r ih =>
    obtain ⟨x1, x2⟩ := buildTop_spec start t
    obtain ⟨r1, r2⟩ := ih (buildTop start t).2
    simp only [buildTops]
    exact ⟨by omega, cntL_cons_ivl (Nat.le_of_lt x1) r1 x2 r2⟩

/-- the state every history starts from satisfies the invariant -/
theorem buildSt_inv (d : IDoc) : Inv (buildSt d) := by
  obtain ⟨h1, h2⟩ := buildTops_spec 1 d.kids
  have hc : ∀ a, cntL a (buildSt d).roots = ivl 0 (buildTops 1 d.kids).2 a := fun a => by
    show cntL a [Node.mk 0 .doc [] [] (buildTops 1 d.kids).1] = _
    rw [cntL_singleton]
    exact cnt_mk_ivl (Nat.le_refl 1) h1 (cntL_nil_ivl 1) h2 _ _ a
  refine ⟨fun a => ?_, fun a ha => ?_⟩
  · rw [hc a]; unfold ivl; split <;> omega
  · rw [hc a] at ha
    unfold ivl at ha
    split at ha
    · show a < (buildTops 1 d.kids).2; omega
    · omega

end XmlRs.Dom
