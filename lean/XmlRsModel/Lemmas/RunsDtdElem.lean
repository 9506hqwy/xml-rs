import XmlRsModel.Lemmas.RunsDtdItems
/-! Completeness of content models: content particles, choice / sequence groups with occurrence indicators. -/
namespace XmlRs.Lex
open XmlRs Gen.Xml XmlRs.Names

def occG : G := G.alt [G.alt [G.tag ['?'], G.tag ['*'], G.tag ['+']], G.seq []]

def cstOcc : Occ → CST
  | .one => .seq []
  | .opt => .leaf ['?']
  | .star => .leaf ['*']
  | .plus => .leaf ['+']

abbrev occOrName (c : Char) : Bool := P.isNameChar c || c == '?' || c == '*' || c == '+'

theorem occOrName_false {c : Char} (h : occOrName c = false) :
    P.isNameChar c = false ∧ (c == '?') = false ∧ (c == '*') = false ∧ (c == '+') = false := by
  simpa only [occOrName, Bool.or_eq_false_iff, and_assoc] using h

theorem runs_occ (o : Occ) (Y : Str) (hY : o = .one → Stops occOrName Y) : Runs env occG (o.str ++ Y) (.ok (cstOcc o) Y) := by
  cases o with
  | one =>
    have h := hY rfl
    exact Runs.opt_none (Runs.alt (.skip (runs_tag_fail_head (h.mono fun _ hc => (occOrName_false hc).2.1))
      (.skip (runs_tag_fail_head (h.mono fun _ hc => (occOrName_false hc).2.2.1))
      (.skip (runs_tag_fail_head (h.mono fun _ hc => (occOrName_false hc).2.2.2)) (.nil _)))))
  | opt => exact Runs.opt_some (Runs.alt (.hit (Runs.tag_ok ['?'] Y)))
  | star => exact Runs.opt_some (Runs.alt (.skip (Runs.tag_fail rfl) (.hit (Runs.tag_ok ['*'] Y))))
  | plus => exact Runs.opt_some (Runs.alt (.skip (Runs.tag_fail rfl) (.skip (Runs.tag_fail rfl) (.hit (Runs.tag_ok ['+'] Y)))))

def sepG (ch : Bool) : G := G.seq [G.cls0 P.isSpace, G.tag [sepChar ch], G.cls0 P.isSpace]
def cstSep (ch : Bool) (a b : Str) : CST := .seq [.leaf a, .leaf [sepChar ch], .leaf b]

/-- the tree of a group: after the first particle either `(sep cp) (sep cp)*` (choice) or `(sep cp)*` (sequence) -/
def groupMid (ch : Bool) (tl : List CST) : CST :=
  if ch then (match tl with | [] => .many [] | x :: xs => .seq [x, .many xs]) else .many tl

def mkGroupBody (w0 : Str) (cf : CST) (ch : Bool) (tl : List CST) (w1 : Str) (o : Occ) : CST :=
  .node N.children_body (.seq [
    .node N.group (.seq [.seq [.leaf ['('], .leaf w0], .seq [cf, groupMid ch tl], .seq [.leaf w1, .leaf [')']]]),
    cstOcc o])

mutual
def cstCp : CCp → CST
  | .name n o => .node N.cp (.seq [cstQN n, cstOcc o])
  | .group w0 f ch rest w1 o => .node N.cp (.node N.children (mkGroupBody w0 (cstCp f) ch (cstTail ch rest) w1 o))
def cstTail (ch : Bool) : CCpTail → List CST
  | .nil => []
  | .cons a b p t => .seq [cstSep ch a b, cstCp p] :: cstTail ch t
end

theorem cstCp_group (w0 : Str) (f : CCp) (ch : Bool) (rest : CCpTail) (w1 : Str) (o : Occ) :
    cstCp (.group w0 f ch rest w1 o) = .node N.cp (.node N.children (mkGroupBody w0 (cstCp f) ch (cstTail ch rest) w1 o)) := by
  rw [cstCp]

theorem cp_head (p : CCp) (h : okCp p = true) : ∃ c t, p.str = c :: t ∧ P.isSpace c = false ∧ c ≠ '#' ∧ c ≠ '|' ∧ c ≠ ',' := by
  cases p with
  | name n o =>
    simp only [okCp] at h
    obtain ⟨c, t, e, hc⟩ := okQN_text_head h
    refine ⟨c, t ++ o.str, by simp [CCp.str, e], space_not_nameChar c hc, ?_, ?_, ?_⟩ <;> (rintro rfl; revert hc; decide)
  | group w0 f ch rest w1 o => exact ⟨'(', _, rfl, by decide, by decide, by decide, by decide⟩

theorem cp_stops_space {p : CCp} (h : okCp p = true) (Y : Str) : Stops P.isSpace (p.str ++ Y) := by
  obtain ⟨c, t, e, hc, _⟩ := cp_head p h
  rw [e]; exact .cons _ hc

def CpEnd (Y : Str) : Prop := Stops occOrName Y

theorem occ_space (c : Char) (h : P.isSpace c = true) : occOrName c = false := by
  rcases C15.space_cases c h with rfl | rfl | rfl | rfl <;> decide

theorem cpEnd_ws_then {w : Str} (hw : okWs w = true) {c : Char} (hc : occOrName c = false) (Y : Str) : CpEnd (w ++ c :: Y) :=
  .ws occ_space hw fun _ => .cons _ hc

theorem cpEnd_tail (ch : Bool) (t : CCpTail) (h : okTail t = true) {w1 : Str} (hw : okWs w1 = true) (Y : Str) :
    CpEnd (CCpTail.str ch t ++ (w1 ++ ')' :: Y)) := by
  cases t with
  | nil => exact cpEnd_ws_then hw (by decide) Y
  | cons a b p t' =>
    simp only [okTail, Bool.and_eq_true] at h
    simp only [CCpTail.str, List.append_assoc, List.cons_append]
    exact cpEnd_ws_then h.1.1.1 (by cases ch <;> decide) _

theorem okGroup_parts {w0 : Str} {f : CCp} {ch : Bool} {rest : CCpTail} {w1 : Str} {o : Occ} (h : okCp (.group w0 f ch rest w1 o) = true) :
    okWs w0 = true ∧ okCp f = true ∧ okTail rest = true ∧ okWs w1 = true ∧ (ch = true → rest ≠ .nil) := by
  simp only [okCp, Bool.and_eq_true, Bool.or_eq_true, Bool.not_eq_true'] at h
  obtain ⟨⟨⟨⟨h1, h2⟩, h3⟩, h4⟩, h5⟩ := h
  refine ⟨h1, h2, h3, h4, ?_⟩
  rintro rfl rfl
  simp at h5

/-- what `group` has between its first particle and `S? )`: a choice needs one `|` at least -/
def groupMidG : G :=
  G.alt [G.seq [G.seq [sepG true, G.nt N.cp], G.many0 (G.seq [sepG true, G.nt N.cp])], G.many0 (G.seq [sepG false, G.nt N.cp])]

theorem group_str (w0 : Str) (f : CCp) (ch : Bool) (rest : CCpTail) (w1 : Str) (o : Occ) (Y : Str) :
    (CCp.group w0 f ch rest w1 o).str ++ Y = '(' :: (w0 ++ (f.str ++ (CCpTail.str ch rest ++ (w1 ++ ')' :: (o.str ++ Y))))) := by
  simp [CCp.str]

abbrev CpRuns (p : CCp) : Prop :=
  okCp p = true → ∀ Y : Str, CpEnd Y → Runs env (.nt N.cp) (p.str ++ Y) (.ok (cstCp p) Y)

abbrev TailRuns (t : CCpTail) : Prop :=
  ∀ ch : Bool, okTail t = true → ∀ w1 Y : Str, okWs w1 = true →
    RunsMany env (.seq [sepG ch, .nt N.cp]) (CCpTail.str ch t ++ (w1 ++ ')' :: Y)) (.ok (cstTail ch t) (w1 ++ ')' :: Y)) ∧
    ((ch = true → t ≠ .nil) →
      Runs env groupMidG (CCpTail.str ch t ++ (w1 ++ ')' :: Y)) (.ok (groupMid ch (cstTail ch t)) (w1 ++ ')' :: Y)))

theorem cp_name (n : QN) (o : Occ) : CpRuns (.name n o) := by
  intro h Y hY
  simp only [okCp] at h
  obtain ⟨c, t, e, hc⟩ := okQN_text_head h
  have hpar : stripPrefix ['('] ((CCp.name n o).str ++ Y) = none := by
    simp only [CCp.str, e, List.cons_append]
    exact strip_cons_ne _ _ (by rintro rfl; revert hc; decide)
  have hst : Stops P.isNameChar (o.str ++ Y) := by
    cases o with
    | one => exact hY.mono fun _ hc => (occOrName_false hc).1
    | _ => exact .cons _ (by decide)
  simp only [CCp.str, List.append_assoc] at hpar ⊢
  exact Runs.nt_of env_cp (Runs.alt
    (.skip (Runs.nt_fail_of env_children (Runs.nt_fail_of env_children_body (Runs.seq_fail_head
      (Runs.nt_fail_of env_group (Runs.seq_fail_head (Runs.seq_fail_head (Runs.tag_fail hpar)))))))
    (.hit (Runs.seq2 (runs_qname h hst) (runs_occ o Y fun _ => hY)))))

theorem runs_group_body {w0 : Str} {f : CCp} {ch : Bool} {rest : CCpTail} {w1 : Str} {o : Occ} (hf : CpRuns f) (hr : TailRuns rest)
    (h : okCp (.group w0 f ch rest w1 o) = true) (Y : Str) (hY : CpEnd Y) :
    Runs env (.nt N.children_body) ((CCp.group w0 f ch rest w1 o).str ++ Y)
      (.ok (mkGroupBody w0 (cstCp f) ch (cstTail ch rest) w1 o) Y) := by
  obtain ⟨h0, hf', hr', h1, hch⟩ := okGroup_parts h
  rw [group_str]
  exact Runs.nt_of env_children_body (Runs.seq2 (Runs.nt_of env_group (Runs.seq3
    (Runs.seq2 (Runs.tag_ok ['('] _) (runs_cls0 h0 (cp_stops_space hf' _)))
    (Runs.seq2 (hf hf' _ (cpEnd_tail ch rest hr' h1 _)) ((hr ch hr' w1 (o.str ++ Y) h1).2 hch))
    (runs_ws_tag h1 [')'] (.cons _ (by decide))))) (runs_occ o Y fun _ => hY))

theorem cp_group {w0 : Str} {f : CCp} {ch : Bool} {rest : CCpTail} {w1 : Str} {o : Occ} (hf : CpRuns f) (hr : TailRuns rest) :
    CpRuns (.group w0 f ch rest w1 o) := fun h Y hY => by
  rw [cstCp_group]
  exact Runs.nt_of env_cp (Runs.alt (.hit (Runs.nt_of env_children (runs_group_body hf hr h Y hY))))

theorem tail_nil : TailRuns .nil := fun ch _ w1 Y hw => by
  have hloop : RunsMany env (.seq [sepG ch, .nt N.cp]) (w1 ++ ')' :: Y) (.ok [] (w1 ++ ')' :: Y)) :=
    .stop (Runs.seq_fail_head (ws_tag_fails hw (by decide) (by cases ch <;> decide)))
  refine ⟨hloop, fun hch => ?_⟩
  cases ch with
  | true => exact absurd rfl (hch rfl)
  | false => exact Runs.alt (.skip (Runs.seq_fail_head (Runs.seq_fail_head (ws_tag_fails hw (by decide) (by decide)))) (.hit (Runs.many hloop)))

theorem tail_cons {a b : Str} {p : CCp} {t : CCpTail} (hp : CpRuns p) (ht : TailRuns t) : TailRuns (.cons a b p t) := fun ch h w1 Y hw => by
  simp only [okTail, Bool.and_eq_true] at h
  obtain ⟨⟨⟨ha, hb⟩, hp'⟩, ht'⟩ := h
  have hiter : Runs env (.seq [sepG ch, .nt N.cp]) (a ++ (sepChar ch :: (b ++ (p.str ++ (CCpTail.str ch t ++ (w1 ++ ')' :: Y))))))
      (.ok (.seq [cstSep ch a b, cstCp p]) (CCpTail.str ch t ++ (w1 ++ ')' :: Y))) :=
    Runs.seq2 (runs_ws_char_ws (by cases ch <;> decide) ha hb (cp_stops_space hp' _)) (hp hp' _ (cpEnd_tail ch t ht' hw Y))
  have hrest := (ht ch ht' w1 Y hw).1
  simp only [CCpTail.str, List.append_assoc, List.cons_append, cstTail]
  have hloop := RunsMany.step hiter (by simp only [List.length_append, List.length_cons]; omega) hrest
  refine ⟨hloop, fun _ => ?_⟩
  cases ch with
  | true => exact Runs.alt (.hit (Runs.seq2 hiter (Runs.many hrest)))
  | false =>
    -- the choice alternative fails: no `|` follows the first particle
    exact Runs.alt (.skip (Runs.seq_fail_head (Runs.seq_fail_head (ws_tag_fails ha (by decide) (by decide)))) (.hit (Runs.many hloop)))

theorem runs_cp : ∀ (p : CCp), okCp p = true → ∀ Y : Str, CpEnd Y → Runs env (.nt N.cp) (p.str ++ Y) (.ok (cstCp p) Y) :=
  CCp.rec (motive_1 := CpRuns) (motive_2 := TailRuns) cp_name (fun _ _ _ _ _ _ => cp_group) tail_nil (fun _ _ _ _ => tail_cons)

theorem tail_runs : ∀ t : CCpTail, TailRuns t
  | .nil => tail_nil
  | .cons _ _ p t => tail_cons (runs_cp p) (tail_runs t)

theorem runs_tail : ∀ (ch : Bool) (t : CCpTail), okTail t = true → ∀ (w1 Y : Str), okWs w1 = true →
    RunsMany env (.seq [sepG ch, .nt N.cp]) (CCpTail.str ch t ++ (w1 ++ ')' :: Y)) (.ok (cstTail ch t) (w1 ++ ')' :: Y)) :=
  fun ch t h w1 Y hw => (tail_runs t ch h w1 Y hw).1

end XmlRs.Lex
