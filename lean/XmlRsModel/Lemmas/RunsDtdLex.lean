import XmlRsModel.Lemmas.RunsDecl
/-! Completeness of the lexical productions of the internal subset: system and public identifier literals, external
    identifiers, entity values. -/
namespace XmlRs.Lex
open XmlRs Gen.Xml XmlRs.Names

theorem except_self (p : Char → Bool) (q : Char) : P.except p [q] q = false := by simp [P.except]

def cstSysLit (q : Char) (l : Str) : CST := .node N.system_literal (.seq [.leaf [q], .leaf l, .leaf [q]])

theorem runs_system_literal {q : Char} (hq : isQuote q = true) {l : Str} (hl : l.all (P.except P.isChar [q]) = true) (Y : Str) :
    Runs env (.nt N.system_literal) (q :: (l ++ q :: Y)) (.ok (cstSysLit q l) Y) := by
  refine Runs.nt_of env_system_literal (runs_two_quotes_dq hq ?_)
  rcases isQuote_cases hq with rfl | rfl <;> exact runs_cls0 hl (.cons _ (except_self _ _))

theorem system_literal_fails {c : Char} (h1 : c ≠ '"') (h2 : c ≠ '\'') (Y : Str) : Runs env (.nt N.system_literal) (c :: Y) .fail :=
  Runs.nt_fail_of env_system_literal (Runs.alt (.skip (Runs.seq_fail_head (Runs.tag_fail (strip_cons_ne _ _ h1.symm)))
    (.skip (Runs.seq_fail_head (Runs.tag_fail (strip_cons_ne _ _ h2.symm))) (.nil _))))

def cstPubLit (q : Char) (p : Str) : CST :=
  .node N.pubid_literal (.seq [.leaf [q], if q = '"' then .node N.multipubidchar0 (.leaf p) else .leaf p, .leaf [q]])

theorem runs_pubid_literal {q : Char} (hq : isQuote q = true) {p : Str} (hp : p.all (P.except P.isPubidChar [q]) = true) (Y : Str) :
    Runs env (.nt N.pubid_literal) (q :: (p ++ q :: Y)) (.ok (cstPubLit q p) Y) := by
  refine Runs.nt_of env_pubid_literal (runs_two_quotes_dq hq ?_)
  rcases isQuote_cases hq with rfl | rfl
  · have hp' : p.all P.isPubidChar = true := by
      rw [List.all_eq_true] at hp ⊢
      intro c hc; have := hp c hc; rw [P.except, Bool.and_eq_true] at this; exact this.1
    rw [if_pos rfl, if_pos rfl]
    exact Runs.nt_of env_multipubidchar0 (runs_cls0 hp' (.cons _ (by decide)))
  · rw [if_neg (by decide), if_neg (by decide)]
    exact runs_cls0 hp (.cons _ (except_self _ _))

def cstExtId : CExtId → CST
  | .sysId w q l => .node N.external_id (.seq [.seq [.leaf kwSYSTEM, .leaf w], cstSysLit q l])
  | .pubId w qp p w2 qs l => .node N.external_id (.seq [.seq [.leaf kwPUBLIC, .leaf w], .seq [cstPubLit qp p, .seq [.leaf w2, cstSysLit qs l]]])

theorem runs_external_id {id : CExtId} (h : okExtId id = true) (Y : Str) :
    Runs env (.nt N.external_id) (id.str ++ Y) (.ok (cstExtId id) Y) := by
  cases id with
  | sysId w q l =>
    simp only [okExtId, Bool.and_eq_true] at h
    obtain ⟨⟨h1, h2⟩, h3⟩ := h
    simp only [CExtId.str, List.append_assoc, List.cons_append, List.nil_append]
    exact Runs.nt_of env_external_id (Runs.alt (.hit (Runs.seq2 (runs_tag_ws1 kwSYSTEM h1 (.cons _ (sp_of_quote h2))) (runs_system_literal h2 h3 Y))))
  | pubId w qp p w2 qs l =>
    simp only [okExtId, Bool.and_eq_true] at h
    obtain ⟨⟨⟨⟨⟨h1, h2⟩, h3⟩, h4⟩, h5⟩, h6⟩ := h
    simp only [CExtId.str, List.append_assoc, List.cons_append, List.nil_append]
    exact Runs.nt_of env_external_id
      (Runs.alt (.skip (Runs.seq_fail_head (Runs.seq_fail_head (Runs.tag_fail rfl)))
        (.hit (Runs.seq2 (runs_tag_ws1 kwPUBLIC h1 (.cons _ (sp_of_quote h2)))
          (Runs.seq2 (runs_pubid_literal h2 h3 _) (runs_ws1_then h4 (.cons _ (sp_of_quote h5)) (runs_system_literal h5 h6 Y)))))))

theorem external_id_fails {s : Str} (h1 : stripPrefix kwSYSTEM s = none) (h2 : stripPrefix kwPUBLIC s = none) :
    Runs env (.nt N.external_id) s .fail :=
  Runs.nt_fail_of env_external_id (Runs.alt (.skip (Runs.seq_fail_head (Runs.seq_fail_head (Runs.tag_fail h1)))
    (.skip (Runs.seq_fail_head (Runs.seq_fail_head (Runs.tag_fail h2))) (.nil _))))

/-- `external_id` fails on `PUBLIC S pubid` when no system literal follows (a notation's public identifier) -/
theorem external_id_fails_on_public {w : Str} {q : Char} {p : Str} (hw : okWs1 w = true) (hq : isQuote q = true)
    (hp : p.all (P.except P.isPubidChar [q]) = true) {w2 : Str} (hw2 : okWs w2 = true) (Y : Str) :
    Runs env (.nt N.external_id) (kwPUBLIC ++ (w ++ (q :: (p ++ q :: (w2 ++ '>' :: Y))))) .fail :=
  Runs.nt_fail_of env_external_id (Runs.alt (.skip (Runs.seq_fail_head (Runs.seq_fail_head (Runs.tag_fail rfl)))
    (.skip (Runs.seq_fail (.fail_tail (runs_tag_ws1 kwPUBLIC hw (.cons _ (sp_of_quote hq)))
      (.fail_head (Runs.seq_fail (.fail_tail (runs_pubid_literal hq hp _)
        (.fail_head (Runs.seq_fail (ws1_then_fails hw2 (.cons _ sp_gt) (system_literal_fails (by decide) (by decide) Y))))))))) (.nil _))))

def cstPeRef (n : Str) : CST := .node N.pe_reference (.seq [.leaf ['%'], cstName n, .leaf [';']])

def cstPieceE : Piece → CST
  | .text s => .leaf s
  | .peRef n => cstPeRef n
  | pc => cstRef pc

abbrev evChar (q : Char) : Char → Bool := P.except P.isChar ['%', '&', q]

def evItem (q : Char) : G := G.alt [G.cls1 (evChar q), G.nt N.pe_reference, G.nt N.reference]

theorem evChar_amp (q : Char) : evChar q '&' = false := by simp [evChar, P.except]
theorem evChar_pct (q : Char) : evChar q '%' = false := by simp [evChar, P.except]
theorem evChar_q (q : Char) : evChar q q = false := by simp [evChar, P.except]

theorem runs_pe_reference {n : Str} (hn : n.all P.isNameChar = true) (Y : Str) :
    Runs env (.nt N.pe_reference) ('%' :: (n ++ ';' :: Y)) (.ok (cstPeRef n) Y) :=
  Runs.nt_of env_pe_reference (runs_name_ref '%' hn Y)

theorem pe_reference_fail {r : Str} (hr : Stops (· == '%') r) : Runs env (.nt N.pe_reference) r .fail :=
  Runs.nt_fail_of env_pe_reference (Runs.seq_fail_head (runs_tag_fail_head hr))

theorem okPieceE_text {q : Char} {s : Str} (h : okPieceE q (.text s) = true) : s ≠ [] ∧ s.all (evChar q) = true := by
  simpa [okPieceE] using h

theorem okPieceE_charRef {q : Char} {d : Str} {h : Bool} (hok : okPieceE q (.charRef d h) = true) :
    d ≠ [] ∧ d.all (if h then P.isHexDigit else P.isDigit) = true := by
  simpa [okPieceE] using hok

theorem okPieceE_head (q : Char) (pc : Piece) (_ : okPieceE q pc = true) :
    (∃ s, pc = .text s) ∨ ∃ c t, printPiece pc = c :: t ∧ evChar q c = false := by
  cases pc with
  | text s => exact .inl ⟨s, rfl⟩
  | peRef n => exact .inr ⟨'%', _, rfl, evChar_pct q⟩
  | entRef n => exact .inr ⟨'&', _, rfl, evChar_amp q⟩
  | charRef d h => cases h <;> exact .inr ⟨'&', _, rfl, evChar_amp q⟩

theorem runs_ev_piece {q : Char} {pc : Piece} (hok : okPieceE q pc = true) {Y : Str} (hY : ∀ s, pc = .text s → Stops (evChar q) Y) :
    Runs env (evItem q) (printPiece pc ++ Y) (.ok (cstPieceE pc) Y) := by
  cases pc with
  | text s => exact Runs.alt (.hit (runs_cls1 (okPieceE_text hok).1 (okPieceE_text hok).2 (hY s rfl)))
  | charRef d h =>
    refine Runs.alt (.skip ?_ (.skip ?_ (.hit (runs_reference_char (okPieceE_charRef hok).1 (okPieceE_charRef hok).2 Y))))
    · cases h <;> exact runs_cls1_fail (.cons _ (evChar_amp q))
    · cases h <;> exact pe_reference_fail (.cons _ (by decide))
  | entRef n =>
    exact Runs.alt (.skip (runs_cls1_fail (.cons _ (evChar_amp q))) (.skip (pe_reference_fail (.cons _ (by decide)))
      (.hit (runs_reference_ent hok Y))))
  | peRef n =>
    simp only [printPiece, List.cons_append, List.append_assoc, List.nil_append]
    exact Runs.alt (.skip (runs_cls1_fail (.cons _ (evChar_pct q))) (.hit (runs_pe_reference hok Y)))

def cstEntityValue (q : Char) (ps : List Piece) : CST :=
  .node N.entity_value (.seq [.leaf [q], .many (ps.map cstPieceE), .leaf [q]])

theorem runs_entity_value (q : Char) (hq : isQuote q = true) (ps : List Piece) (Y : Str)
    (hall : ps.all (okPieceE q) = true) (hadj : adjText ps = false) :
    Runs env (.nt N.entity_value) (q :: (printPieces ps ++ q :: Y)) (.ok (cstEntityValue q ps) Y) := by
  have hstop : Runs env (evItem q) (q :: Y) .fail :=
    Runs.alt (.skip (runs_cls1_fail (.cons _ (evChar_q q)))
      (.skip (pe_reference_fail (.cons _ (by rcases isQuote_cases hq with rfl | rfl <;> decide)))
      (.skip (runs_reference_fail (.cons _ (by rcases isQuote_cases hq with rfl | rfl <;> decide))) (.nil _))))
  have hloop := runs_piece_loop (evChar_q q) Y hstop (okPieceE_head q) (fun _ h => (okPieceE_text h).1) (fun _ h _ => runs_ev_piece h)
    ps hall hadj
  refine Runs.nt_of env_entity_value (runs_two_quotes_dq (gD := .many0 (evItem '"')) (gS := .many0 (evItem '\'')) hq ?_)
  rcases isQuote_cases hq with rfl | rfl <;> exact Runs.many hloop

theorem entity_value_fails {Y : Str} (h1 : Stops (· == '"') Y) (h2 : Stops (· == '\'') Y) : Runs env (.nt N.entity_value) Y .fail :=
  Runs.nt_fail_of env_entity_value (Runs.alt (.skip (Runs.seq_fail_head (runs_tag_fail_head h1))
    (.skip (Runs.seq_fail_head (runs_tag_fail_head h2)) (.nil _))))

end XmlRs.Lex
