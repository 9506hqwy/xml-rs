import Lean.Meta.Tactic.Simp.RegisterCommand
/-! Two simp sets for the explicit trees `cst…` of `Lemmas/Runs*.lean`, filled in `Lemmas/Abs*.lean`: `cst_simp` reads a tree
    (labelled children, text, tokens, the label of each production's tree and what the abstraction functions make of the tree
    below it), `depth_simp` computes nesting depths.  Neither unfolds the numbers of the nonterminals: where two labels are
    compared the call is `simp +decide only […]`. -/
register_simp_attr cst_simp
register_simp_attr depth_simp
