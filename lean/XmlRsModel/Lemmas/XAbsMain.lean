import XmlRsModel.Lemmas.XAbsBasic
/-! The trees of spellings as label + body, and what `absNode` does with each label. -/
namespace XmlRs.XLex
open XmlRs XmlRs.XPath XmlRs.Lex
open Gen.XPath

def xLabel (e : CX) : Nat := match cstX e with | .node n _ => n | _ => 0
def xBody (e : CX) : CST := nodeBody (cstX e)

theorem cstX_eq (e : CX) : cstX e = .node (xLabel e) (xBody e) := by cases e <;> rfl

def relBody : CRel → CST
  | .mk f r => .seq [cstStep f, .many (cstRelTail r)]

theorem cstRel_eq (r : CRel) : cstRel r = .node N.relative_location_path (relBody r) := by cases r; rfl

def stepBody : CStep → CST
  | .dot => .leaf ['.']
  | .dotdot => .leaf ['.', '.']
  | .full ax w test preds => .seq [cstAxis ax, .seq [.leaf w, cstTest test], .many (cstPreds preds)]

theorem cstStep_eq (s : CStep) : cstStep s = .node N.step (stepBody s) := by cases s <;> rfl

def opsOf : Nat → List (Str × BinOp)
  | 0 => [(['o', 'r'], BinOp.or)]
  | 1 => [(['a', 'n', 'd'], BinOp.and)]
  | 2 => [(['='], BinOp.eq), (['!', '='], BinOp.ne)]
  | 3 => [(['<', '='], BinOp.le), (['>', '='], BinOp.ge), (['<'], BinOp.lt), (['>'], BinOp.gt)]
  | 4 => [(['+'], BinOp.add), (['-'], BinOp.sub)]
  | 5 => [(['*'], BinOp.mul), (['d', 'i', 'v'], BinOp.div), (['m', 'o', 'd'], BinOp.mod)]
  | _ => [(['|'], BinOp.union)]

theorem opsOf_find (op : BinOp) : ((opsOf (opLevel op)).find? (fun p => p.1 == opText op)).map (·.2) = some op := by
  cases op <;> rfl

theorem absNode_level : ∀ l, l ≤ 5 → ∀ (f : Nat) (b : CST), absNode (f + 1) (levelNt l) b = absChain f (opsOf l) b
  | 0, _, f, b | 1, _, f, b | 2, _, f, b | 3, _, f, b | 4, _, f, b | 5, _, f, b => by rw [absNode]; rfl
  | n + 6, h, _, _ => by omega

theorem absNode_union (f : Nat) (b : CST) : absNode (f + 1) N.union_expr b = absChain f (opsOf 7) b := by rw [absNode]; rfl
theorem absNode_path (f : Nat) (b : CST) : absNode (f + 1) N.path_expr b = absPath f b := by rw [absNode]; rfl
theorem absNode_filter (f : Nat) (b : CST) : absNode (f + 1) N.filter_expr b = absFilter f b := by rw [absNode]; rfl
theorem absNode_primary (f : Nat) (b : CST) : absNode (f + 1) N.primary_expr b = absPrimary f b := by rw [absNode]; rfl
theorem absNode_call (f : Nat) (b : CST) : absNode (f + 1) N.function_call b = absCall f b := by rw [absNode]; rfl
theorem absNode_literal (f : Nat) (b : CST) : absNode (f + 1) N.literal b = .lit (absLiteral b) := by rw [absNode]; rfl
theorem absNode_number (f : Nat) (b : CST) : absNode (f + 1) N.number b = .num b.flatten := by rw [absNode]; rfl

theorem absNode_var_cst (f : Nat) (q : QN) : absNode (f + 1) N.variable_reference (.seq [.leaf ['$'], cstQN q]) = .var q := by
  obtain ⟨b, hb, hq⟩ := cstQNX_node q
  rw [absNode, hb]
  exact congrArg Expr.var hq

theorem absNode_delegate {n : Nat} (hn : n = N.expr ∨ n = N.predicate_expr ∨ n = N.argument ∨ n = N.parse) (f m : Nat) (X : CST) :
    absNode (f + 2) n (.node m X) = absNode f m X := by
  rcases hn with rfl | rfl | rfl | rfl <;> (rw [absNode, absExprF]; rfl)

theorem sig_minus : ∀ ms : List Str, ms.all okWs = true → sigToks (.seq (cstMinus ms)) = ms.map (fun _ => Tok.leaf ['-'])
  | [], _ => rfl
  | w :: r, h => by
    simp only [List.all_cons, Bool.and_eq_true] at h
    have ih := sig_minus r h.2
    simp only [cstMinus, List.map_cons] at ih ⊢
    rw [sig_seq_cons, sig_seq_cons, sig_seq_cons, sig_seq_nil, sig_tok rfl, sig_leaf_ws h.1, ih]
    rfl

theorem filter_minus {α : Type} (a : α) (b : α) (p : α → Bool) (h1 : p a = true) (h2 : p b = false) :
    ∀ ms : List Str, (ms.map (fun _ => a) ++ [b]).filter p = ms.map (fun _ => a)
  | [] => by simp [h2]
  | w :: r => by simp [h1, filter_minus a b p h1 h2 r]

theorem filterMap_minus {α β : Type} (a : α) (b : α) (y : β) (g : α → Option β) (h1 : g a = none) (h2 : g b = some y) :
    ∀ ms : List Str, (ms.map (fun _ => a) ++ [b]).filterMap g = [y]
  | [] => by simp [h2]
  | w :: r => by simp [h1, filterMap_minus a b y g h1 h2 r]

theorem absNode_unary_cst (f : Nat) (ms : List Str) (hms : ms.all okWs = true) (m : Nat) (X : CST) :
    absNode (f + 1) N.unary_expr (.seq [.many (cstMinus ms), .node m X]) = ms.foldl (fun acc _ => Expr.neg acc) (absNode f m X) := by
  have hs : sigToks (.seq [.many (cstMinus ms), .node m X]) = ms.map (fun _ => Tok.leaf ['-']) ++ [.node m X] := by
    rw [sig_seq_cons, sig_seq_cons, sig_seq_nil, sig_many_eq_seq, sig_minus ms hms, sig_node, List.append_nil]
  rw [absNode]
  simp only [N.or_expr, N.and_expr, N.equality_expr, N.relation_expr, N.additive_expr, N.multiplicative_expr, N.union_expr, N.unary_expr,
    Nat.reduceBEq, Bool.false_eq_true, if_false, if_true, hs]
  -- among the tokens the minus signs are the leaves, the operand is the one node
  rw [filter_minus (Tok.leaf ['-']) (Tok.node m X) _ rfl rfl ms, filterMap_minus (Tok.leaf ['-']) (Tok.node m X) (m, X) _ rfl rfl ms]
  simp only [List.foldl_map]

end XmlRs.XLex
