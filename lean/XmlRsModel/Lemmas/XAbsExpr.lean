import XmlRsModel.Lemmas.XAbsMain
/-! Token lists of the composite trees, and the `abs` functions on them: one equation per shape, with the recursion into
    sub-expressions left symbolic (`XAbsFinal.lean` supplies it). -/
namespace XmlRs.XLex
open XmlRs XmlRs.XPath XmlRs.Lex
open Gen.XPath

theorem ok9_filter {f : CX} (h : okAt 9 f = true) : ∃ p preds, f = .filter p preds := by
  cases f
  case filter p preds => exact ⟨p, preds, rfl⟩
  all_goals simp [okAt] at h

theorem ok8_path {f : CX} (h : okAt 8 f = true) :
    (∃ g, f = .pathF g) ∨ (∃ g w1 ds w2 rel, f = .pathFR g w1 ds w2 rel) ∨ (∃ ds w rel, f = .pathAbs ds w rel) ∨ (∃ rel, f = .pathRel rel) ∨ f = .pathRoot := by
  cases f
  case pathF g => exact .inl ⟨g, rfl⟩
  case pathFR g w1 ds w2 rel => exact .inr (.inl ⟨g, w1, ds, w2, rel, rfl⟩)
  case pathAbs ds w rel => exact .inr (.inr (.inl ⟨ds, w, rel, rfl⟩))
  case pathRel rel => exact .inr (.inr (.inr (.inl ⟨rel, rfl⟩)))
  case pathRoot => exact .inr (.inr (.inr (.inr rfl)))
  all_goals simp [okAt] at h

theorem ok9_label {f : CX} (h : okAt 9 f = true) : xLabel f = N.filter_expr := by
  obtain ⟨p, preds, rfl⟩ := ok9_filter h
  rfl

theorem ok10_label {f : CX} (h : okAt 10 f = true) : xLabel f = N.primary_expr := by
  cases f
  case var | paren | lit | num | call => rfl
  all_goals simp [okAt] at h

theorem size_pos (c : CST) : 0 < c.size := by cases c <;> simp [CST.size]

def predBody (w1 : Str) (e : CX) (w2 : Str) : CST :=
  .seq [.seq [.leaf ['['], .leaf w1], .node N.predicate_expr (.node N.expr (cstX e)), .seq [.leaf w2, .leaf [']']]]

def predBodies : CPreds → List CST
  | .nil => []
  | .cons _ w1 e w2 t => predBody w1 e w2 :: predBodies t

theorem sig_preds : ∀ (p : CPreds), okPreds p = true → sigToks (.many (cstPreds p)) = (predBodies p).map (fun b => Tok.node N.predicate b)
  | .nil, _ => rfl
  | .cons w w1 e w2 t, h => by
    obtain ⟨hw, _, _, _, ht⟩ := okPreds_cons.mp h
    have ih := sig_preds t ht
    rw [sig_many_eq_seq] at ih ⊢
    simp only [cstPreds, predBodies, List.map_cons]
    rw [sig_seq_cons, ih]
    simp only [sig_seq_cons, sig_seq_nil, sig_leaf_ws hw, sig_node, List.cons_append, List.nil_append, List.append_nil, predBody]

theorem kidsLL_preds : ∀ (p : CPreds), kidsLL (cstPreds p) = (predBodies p).map (fun b => (N.predicate, b))
  | .nil => rfl
  | .cons w w1 e w2 t => by simp [cstPreds, predBodies, kidsLL, CST.kidsL, kidsLL_preds t, predBody]

theorem absPred_body (g : Nat) (w1 : Str) (e : CX) (w2 : Str) : absPred (g + 1) (predBody w1 e w2) = absNode g N.predicate_expr (.node N.expr (cstX e)) := by
  rw [absPred]; rfl

theorem filterMap_map_some {α β γ : Type} (f : β → Option γ) (k : α → β) (h : α → γ) (hk : ∀ a, f (k a) = some (h a)) :
    ∀ l : List α, (l.map k).filterMap f = l.map h
  | [] => rfl
  | a :: r => by simp [hk, filterMap_map_some f k h hk r]

theorem sig_tail_cons {w1 w2 : Str} (op : BinOp) (e : CX) (t : CXTail) (h1 : okWs w1 = true) (h2 : okWs w2 = true) :
    sigToks (.many (cstTail (.cons w1 op w2 e t))) = Tok.leaf (opText op) :: Tok.node (xLabel e) (xBody e) :: sigToks (.many (cstTail t)) := by
  simp only [cstTail, sig_many_eq_seq, sig_seq_cons, sig_seq_nil, sig_leaf_ws h1, sig_leaf_ws h2, sig_op, cstX_eq, sig_node,
    List.cons_append, List.nil_append, List.append_nil]

theorem absChain_eq (g : Nat) (ops : List (Str × BinOp)) (c : CST) :
    absChain (g + 1) ops c = (absChain.go g ops none none (sigToks c)).getD (.lit []) := by
  rw [absChain]

theorem go_nil (g : Nat) (ops : List (Str × BinOp)) (acc : Option Expr) (p : Option BinOp) : absChain.go g ops acc p [] = acc := by
  rw [absChain.go]

theorem go_leaf (g : Nat) (ops : List (Str × BinOp)) (acc : Option Expr) (p : Option BinOp) (s : Str) (r : List Tok) :
    absChain.go g ops acc p (.leaf s :: r) = absChain.go g ops acc (((ops.find? (fun q => q.1 == s)).map (·.2)) <|> p) r := by
  rw [absChain.go]

theorem go_node_first (g : Nat) (ops : List (Str × BinOp)) (n : Nat) (b : CST) (r : List Tok) :
    absChain.go g ops none none (.node n b :: r) = absChain.go g ops (some (absNode g n b)) none r := by
  simp [absChain.go]

theorem go_node_op (g : Nat) (ops : List (Str × BinOp)) (a : Expr) (op : BinOp) (n : Nat) (b : CST) (r : List Tok) :
    absChain.go g ops (some a) (some op) (.node n b :: r) = absChain.go g ops (some (.bin op a (absNode g n b))) none r := by
  rw [absChain.go]

theorem absChain_body {g : Nat} {ops : List (Str × BinOp)} {a : CX} {r : CXTail} {x : Expr}
    (ihr : absChain.go g ops (some (absNode g (xLabel a) (xBody a))) none (sigToks (.many (cstTail r))) = some x) :
    absChain (g + 1) ops (.seq [cstX a, .many (cstTail r)]) = x := by
  rw [absChain_eq, sig_seq_cons, sig_seq_cons, sig_seq_nil, cstX_eq a, sig_node]
  simp only [List.cons_append, List.nil_append, List.append_nil]
  rw [go_node_first, ihr]; rfl

theorem absNode_arg (k : Nat) (e : CX) : absNode (k + 4) N.argument (.node N.expr (cstX e)) = absNode k (xLabel e) (xBody e) := by
  rw [cstX_eq e, absNode_delegate (.inr (.inr (.inl rfl))), absNode_delegate (.inl rfl)]

theorem sig_reltail_cons {w1 w2 : Str} (ds : Bool) (s : CStep) (t : CRelTail) (h1 : okWs w1 = true) (h2 : okWs w2 = true) :
    sigToks (.many (cstRelTail (.cons w1 ds w2 s t))) = Tok.leaf (slashText ds) :: Tok.node N.step (stepBody s) :: sigToks (.many (cstRelTail t)) := by
  simp only [cstRelTail, sig_many_eq_seq, sig_seq_cons, sig_seq_nil, sig_leaf_ws h1, sig_leaf_ws h2, sig_slash, cstStep_eq, sig_node,
    List.cons_append, List.nil_append, List.append_nil]

theorem absRel_eq (g : Nat) (c : CST) : absRel (g + 1) c = absRel.go g (sigToks c) := by rw [absRel]

theorem absRel_go_nil (g : Nat) : absRel.go g [] = [] := by rw [absRel.go]

theorem absRel_go_leaf (f : Nat) (ds : Bool) (r : List Tok) :
    absRel.go f (Tok.leaf (slashText ds) :: r) = (if ds then [dosStep] else []) ++ absRel.go f r := by
  rw [absRel.go]; cases ds <;> rfl

theorem absRel_go_step (f : Nat) (b : CST) (r : List Tok) : absRel.go f (Tok.node N.step b :: r) = absStep f b :: absRel.go f r := by
  rw [absRel.go]; rfl

theorem sig_rel (r : CRel) : sigToks (cstRel r) = [.node N.relative_location_path (relBody r)] := by rw [cstRel_eq, sig_node]

theorem absPath_F (g : Nat) (fb : CST) : absPath (g + 1) (.seq [.node N.filter_expr fb, .seq []]) = absFilter g fb := by
  rw [absPath]; rfl

theorem absPath_FR (g : Nat) (fb : CST) {w1 w2 : Str} (ds : Bool) (rel : CRel) (h1 : okWs w1 = true) (h2 : okWs w2 = true) :
    absPath (g + 1) (.seq [.node N.filter_expr fb, .seq [.seq [.leaf w1, .leaf (slashText ds), .leaf w2], cstRel rel]]) =
      .path (some (absFilter g fb)) false ((if ds then [dosStep] else []) ++ absRel g (relBody rel)) := by
  have hts : sigToks (.seq [.node N.filter_expr fb, .seq [.seq [.leaf w1, .leaf (slashText ds), .leaf w2], cstRel rel]]) =
      [.node N.filter_expr fb, .leaf (slashText ds), .node N.relative_location_path (relBody rel)] := by
    simp only [sig_seq_cons, sig_seq_nil, sig_leaf_ws h1, sig_leaf_ws h2, sig_slash, sig_rel, sig_node, List.cons_append, List.nil_append, List.append_nil]
  rw [absPath, hts]
  cases ds <;> rfl

theorem absPath_Abs (g : Nat) {w : Str} (ds : Bool) (rel : CRel) (h1 : okWs w = true) :
    absPath (g + 1) (.seq [.seq [.leaf (slashText ds), .leaf w], cstRel rel]) =
      .path none true ((if ds then [dosStep] else []) ++ absRel g (relBody rel)) := by
  have hts : sigToks (.seq [.seq [.leaf (slashText ds), .leaf w], cstRel rel]) = [.leaf (slashText ds), .node N.relative_location_path (relBody rel)] := by
    simp only [sig_seq_cons, sig_seq_nil, sig_leaf_ws h1, sig_slash, sig_rel, List.cons_append, List.nil_append, List.append_nil]
  rw [absPath, hts]
  cases ds <;> rfl

theorem absPath_Rel (g : Nat) (rel : CRel) : absPath (g + 1) (cstRel rel) = .path none false (absRel g (relBody rel)) := by
  rw [absPath, sig_rel]; rfl

theorem absPath_Root (g : Nat) : absPath (g + 1) (.leaf ['/']) = .path none true [] := by
  rw [absPath, sig_tok rfl]; rfl

theorem absPrimary_node (g : Nat) (n : Nat) (b : CST) : absPrimary (g + 1) (.node n b) = absNode g n b := by
  rw [absPrimary]; rfl

theorem absPrimary_paren (g : Nat) (w1 w2 : Str) (X : CST) :
    absPrimary (g + 1) (.seq [.seq [.leaf ['('], .leaf w1], .node N.expr X, .seq [.leaf w2, .leaf [')']]]) = absNode g N.expr X := by
  rw [absPrimary]; rfl

theorem absFilter_body (g : Nat) (pb : CST) (preds : CPreds) :
    absFilter (g + 1) (.seq [.node N.primary_expr pb, .many (cstPreds preds)]) =
      if (predBodies preds).isEmpty then absNode g N.primary_expr pb
      else .filter (absNode g N.primary_expr pb) ((predBodies preds).map (absPred g)) := by
  have hk : (CST.seq [.node N.primary_expr pb, .many (cstPreds preds)]).kidsL = (N.primary_expr, pb) :: (predBodies preds).map (fun b => (N.predicate, b)) := by
    simp [CST.kidsL, kidsLL, kidsLL_preds]
  simp only [absFilter, hk, List.head?_cons, List.drop_one, List.tail_cons]
  rw [filterMap_map_some _ (fun b => (N.predicate, b)) (absPred g) (by intro a; simp)]
  cases predBodies preds <;> rfl

theorem absCall_body (g : Nat) (f : QN) (w1 w2 w3 : Str) (args : CArgs) :
    absCall (g + 1) (.seq [.node N.function_name (cstQN f), .seq [.seq [.leaf w1, .leaf ['('], .leaf w2], cstArgs args, .seq [.leaf w3, .leaf [')']]]]) =
      .call f ((cstArgs args).kidsL.map fun (n, b) => absNode g n b) := by
  obtain ⟨b, hb, hq⟩ := cstQNX_node f
  simp [absCall, CST.kidsL, kidsLL, hb, hq]

def argBodies : CArgs → List CX
  | .none => []
  | .some f r => f :: (let rec go : CArgTail → List CX | .nil => [] | .cons _ _ e t => e :: go t; go r)

theorem absStep_dot (g : Nat) : absStep (g + 1) (stepBody .dot) = .mk .self .node [] := by
  rw [absStep, stepBody, sig_tok rfl]; rfl

theorem absStep_dotdot (g : Nat) : absStep (g + 1) (stepBody .dotdot) = .mk .parent .node [] := by
  rw [absStep, stepBody, sig_tok rfl]; rfl

theorem sig_step_full (ax : CAxis) {w : Str} (test : CTest) {preds : CPreds} (hw : okWs w = true) (hp : okPreds preds = true) :
    sigToks (stepBody (.full ax w test preds)) =
      Tok.node N.axis_specifier (axisBody ax) :: Tok.node N.node_test (testBody test) :: (predBodies preds).map (fun b => Tok.node N.predicate b) := by
  simp only [stepBody, sig_seq_cons, sig_seq_nil, cstAxis_eq, cstTest_eq, sig_node, sig_leaf_ws hw, sig_preds preds hp,
    List.cons_append, List.nil_append, List.append_nil]

theorem absStep_full (g : Nat) (ax : CAxis) {w : Str} {test : CTest} {preds : CPreds} (hw : okWs w = true) (ht : okTest test = true) (hp : okPreds preds = true) :
    absStep (g + 1) (stepBody (.full ax w test preds)) = .mk ax.erase test.erase ((predBodies preds).map (absPred g)) := by
  rw [absStep, sig_step_full ax test hw hp]
  simp only [List.findSome?, List.filterMap_cons]
  rw [filterMap_map_some _ (fun b => Tok.node N.predicate b) (absPred g) (by intro a; simp)]
  simp [N.axis_specifier, N.node_test, N.predicate]
  refine ⟨?_, absNodeTest_cst test ht⟩
  cases ax with
  | named a w0 => exact axisOfStr_text a
  | attr => rfl
  | omitted => rfl

end XmlRs.XLex
