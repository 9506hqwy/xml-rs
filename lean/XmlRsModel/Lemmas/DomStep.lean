import XmlRsModel.Lemmas.DomInv
import XmlRsModel.Lemmas.DomNorm
import XmlRsModel.Lemmas.DomMoves
/-! Every operation of the DOM model keeps the invariant: `step_grow` says what a step may do to
    the multiset of node ids (keep them, and add ids drawn from the allocation counter only). -/
namespace XmlRs.Dom
open List

/-! ### fresh ids fill an interval -/
/-- indicator of the half-open interval -/
def ivl (lo hi a : Nat) : Nat := if lo ≤ a ∧ a < hi then 1 else 0

theorem ivl_add (lo mid hi a : Nat) (h1 : lo ≤ mid) (h2 : mid ≤ hi) : ivl lo mid a + ivl mid hi a = ivl lo hi a := by
  unfold ivl
  by_cases c1 : lo ≤ a ∧ a < mid
  · rw [if_pos c1, if_neg (by omega), if_pos (by omega)]
  · by_cases c2 : mid ≤ a ∧ a < hi
    · rw [if_neg c1, if_pos c2, if_pos (by omega)]
    · rw [if_neg c1, if_neg c2, if_neg (by omega)]

theorem ivl_empty (lo a : Nat) : ivl lo lo a = 0 := by
  unfold ivl; rw [if_neg (by omega)]

theorem ivl_one (lo a : Nat) : (if lo == a then 1 else 0) = ivl lo (lo + 1) a := by
  unfold ivl
  by_cases h : lo = a
  · subst h; rw [beq_self_eq_true, if_pos rfl, if_pos (by omega)]
  · rw [if_neg (by simpa using h), if_neg (by omega)]

/-- a node numbered `s` above attributes numbered `[s+1, m)` and children numbered `[m, e)` -/
theorem cnt_mk_ivl {s m e : Nat} (h1 : s + 1 ≤ m) (h2 : m ≤ e) {as ks : List Node} (hA : ∀ a, cntL a as = ivl (s + 1) m a)
    (hK : ∀ a, cntL a ks = ivl m e a) (k : Kind) (d : Str) (a : Nat) : cnt a (.mk s k d as ks) = ivl s e a := by
  rw [cnt_mk, hA, hK, ivl_one, Nat.add_assoc, ivl_add _ m e a h1 h2, ivl_add s _ e a (by omega) (by omega)]

theorem cntL_cons_ivl {s m e : Nat} (h1 : s ≤ m) (h2 : m ≤ e) {n : Node} {r : List Node} (hn : ∀ a, cnt a n = ivl s m a)
    (hr : ∀ a, cntL a r = ivl m e a) (a : Nat) : cntL a (n :: r) = ivl s e a := by
  rw [cntL_cons, hn, hr, ivl_add s m e a h1 h2]

theorem cntL_nil_ivl (s a : Nat) : cntL a [] = ivl s s a := by rw [cntL_nil, ivl_empty]

theorem leaf_ivl (next : Nat) (k : Kind) (d : Str) (a : Nat) : cnt a (Node.mk next k d [] []) = ivl next (next + 1) a :=
  cnt_mk_ivl (Nat.le_refl _) (Nat.le_refl _) (cntL_nil_ivl _) (cntL_nil_ivl _) k d a

/-- `s'` holds the ids of `s` at most as often as `s` did, plus at most once each id allocated in between -/
def Grow (s s' : St) : Prop :=
  s.next ≤ s'.next ∧ ∀ a, cntL a s'.roots ≤ cntL a s.roots + (if s.next ≤ a ∧ a < s'.next then 1 else 0)

theorem Inv.of_grow {s s' : St} (hi : Inv s) (h : Grow s s') : Inv s' := by
  have key : ∀ a, cntL a s'.roots ≤ 1 ∧ (0 < cntL a s'.roots → a < s'.next) := fun a => by
    have h1 := h.2 a
    have h0 := h.1
    have h2 := hi.1 a
    -- an id in use is below `s.next`, so outside the interval; an id not in use occurs at most as the interval says
    by_cases hp : 0 < cntL a s.roots
    · have := hi.2 a hp
      split at h1 <;> omega
    · split at h1 <;> omega
  exact ⟨fun a => (key a).1, fun a => (key a).2⟩

theorem NoNew.grow {s s' : St} (h : NoNew s s') : Grow s s' :=
  ⟨Nat.le_of_eq h.1.symm, fun a => Nat.le_trans (h.2 a) (Nat.le_add_right _ _)⟩

theorem SameIds.grow {s s' : St} (h : SameIds s s') : Grow s s' := h.noNew.grow

theorem Grow.refl (s : St) : Grow s s := (NoNew.refl s).grow

theorem Grow.trans {a b c : St} (h1 : Grow a b) (h2 : Grow b c) : Grow a c := by
  refine ⟨Nat.le_trans h1.1 h2.1, fun x => ?_⟩
  have e1 := h1.2 x
  have e2 := h2.2 x
  have := ivl_add a.next b.next c.next x h1.1 h2.1
  unfold ivl at this
  omega

/-- the handle table is the caller's business: it does not enter the invariant -/
theorem Grow.with_handles {s s' : St} (h : Grow s s') (hs : List (Option Nat)) : Grow s { s' with handles := hs } := h

/-- `Grow` with its interval named -/
theorem grow_iff (s s' : St) :
    Grow s s' ↔ s.next ≤ s'.next ∧ ∀ a, cntL a s'.roots ≤ cntL a s.roots + ivl s.next s'.next a := Iff.rfl

theorem fresh_grow (s : St) (k : Kind) (d : Str) : Grow s (s.fresh k d).1 := by
  refine (grow_iff _ _).mpr ⟨Nat.le_succ _, fun a => ?_⟩
  have := leaf_ivl s.next k d a
  simp only [St.fresh, cntL_roots, cntL_append, cntL_cons, cntL_nil]; omega

/-- the ids of freshly made attribute value items: one each from `start` on -/
theorem mkItems_spec (start : Nat) (ps : List Piece) :
    start ≤ (mkItems start ps).2 ∧ ∀ a, cntL a (mkItems start ps).1 = ivl start (mkItems start ps).2 a := by
  induction ps generalizing start with
  | nil => exact ⟨Nat.le_refl _, cntL_nil_ivl start⟩
  | cons p r ih =>
    obtain ⟨h1, h2⟩ := ih (start + 1)
    exact ⟨Nat.le_of_succ_le h1, cntL_cons_ivl (Nat.le_succ _) h1 (leaf_ivl start _ _) h2⟩

theorem replaceChild_sameIds (s : St) (p new old : Nat) (hi : Inv s) :
    SameIds s (step s (.replaceChild p new old)).1 := by
  rcases replaceChild_cases s p new old with ⟨_, h⟩ | ⟨_, _, _, hins, h⟩ | ⟨_, _, _, _, _, _, _, hrm, hins, h⟩ <;> rw [h]
  · exact SameIds.refl s
  · exact insertChild_sameIds hi hins
  · have h1 := removeChild_sameIds hi hrm
    exact h1.trans (insertChild_sameIds (hi.of_sameIds h1) hins)

theorem cnt_mapAttrs_snoc (x n : Node) (a : Nat) : cnt a (n.mapAttrs (· ++ [x])) = cnt a n + cnt a x := by
  have := cnt_mapAttrs (· ++ [x]) n a
  simp only [cntL_append, cntL_cons, cntL_nil] at this
  omega

theorem newAttr_grow (s : St) (hi : Inv s) (e : Nat) (k : Kind) (ps : List Piece) :
    Grow s { (s.update e (Node.mapAttrs (· ++ [Node.mk s.next k [] [] (mkItems (s.next + 1) ps).1]))) with
              next := (mkItems (s.next + 1) ps).2 } := by
  obtain ⟨hn, hc⟩ := mkItems_spec (s.next + 1) ps
  refine (grow_iff _ _).mpr ⟨Nat.le_of_succ_le hn, fun a => ?_⟩
  have := update_le s e (Node.mapAttrs (· ++ [Node.mk s.next k [] [] (mkItems (s.next + 1) ps).1])) a _ hi.1
    (fun n => cnt_mapAttrs_snoc _ n a)
  rwa [cnt_mk_ivl (Nat.le_refl _) hn (cntL_nil_ivl _) hc] at this

/-- take `a` out of wherever it is and make it an attribute of `e` -/
theorem attach_core {s1 s2 : St} (hi1 : Inv s1) {a : Nat} (e : Nat) {x : Node} (hd : s1.detach a = (s2, some x)) :
    NoNew s1 (s2.update e (Node.mapAttrs (· ++ [x]))) := by
  obtain ⟨hn, _, hcnt⟩ := detach_some hi1.1 hd
  refine ⟨(update_next ..).trans hn, fun b => ?_⟩
  have := update_le s2 e (Node.mapAttrs (· ++ [x])) b _ (detach_distinct hi1.1 hd) (fun n => cnt_mapAttrs_snoc x n b)
  have := hcnt b
  omega

theorem setValue_core {s : St} (hi : Inv s) {n : Nat} {nn : Node} (hf : s.find n = some nn) (ps : List Piece) :
    Grow s { (s.update n (Node.mapKids (fun _ => (mkItems s.next ps).1))) with
              next := (mkItems s.next ps).2,
              detached := (s.update n (Node.mapKids (fun _ => (mkItems s.next ps).1))).detached ++ nn.kids } := by
  obtain ⟨hn, hc⟩ := mkItems_spec s.next ps
  refine (grow_iff _ _).mpr ⟨hn, fun a => ?_⟩
  have := update_count s n (Node.mapKids (fun _ => (mkItems s.next ps).1)) nn a _ _ hi.1 hf
    (cnt_mapKids (fun _ => (mkItems s.next ps).1) nn a)
  rw [hc a] at this
  simp only [cntL_roots, cntL_append] at this ⊢
  omega

/-- where `splitText` puts the second half among the children of the parent.  `step` and `Move.split` write this `match`
    out; what is stated with `splitPlace` fits them by unfolding it -/
def splitPlace (n : Nat) (new : Node) (ks : List Node) : List Node :=
  match (ks.dropWhile (·.id != n)).drop 1 with
  | nx :: _ => insertBeforeL new (some nx.id) ks
  | [] => ks ++ [new]

theorem splitPlace_split (n : Nat) (new : Node) (ks : List Node) :
    ∃ a b, ks = a ++ b ∧ splitPlace n new ks = a ++ new :: b := by
  unfold splitPlace
  split
  · exact insertBeforeL_split new _ ks
  · exact ⟨ks, [], (append_nil ks).symm, rfl⟩

theorem cntL_splitPlace (n : Nat) (new : Node) (ks : List Node) (a : Nat) :
    cntL a (splitPlace n new ks) = cntL a ks + cnt a new := by
  obtain ⟨p, q, rfl, h⟩ := splitPlace_split n new ks
  rw [h, cntL_append, cntL_append, cntL_cons]; omega

theorem split_core {s s1 : St} (hs : SameIds s s1) (hi : Inv s) (n : Nat) (k : Kind) (r : Str) :
    Grow s { (match s1.parent n with
              | some p => s1.update p (Node.mapKids (splitPlace n (Node.mk s.next k r [] [])))
              | none => { s1 with detached := s1.detached ++ [Node.mk s.next k r [] []] }) with next := s.next + 1 } := by
  refine (grow_iff _ _).mpr ⟨Nat.le_succ _, fun a => ?_⟩
  have hnew := leaf_ivl s.next k r a
  have h2 := hs.2 a
  cases hp : s1.parent n with
  | none =>
    simp only [cntL_roots, cntL_append, cntL_cons, cntL_nil] at h2 ⊢
    omega
  | some p =>
    have := update_le s1 p (Node.mapKids (splitPlace n (Node.mk s.next k r [] []))) a (cnt a (Node.mk s.next k r [] []))
      (hi.of_sameIds hs).1 (fun m => by
        have := cnt_mapKids (splitPlace n (Node.mk s.next k r [] [])) m a
        rw [cntL_splitPlace] at this
        omega)
    show cntL a (s1.update p _).roots ≤ _ + ivl s.next (s.next + 1) a
    omega

theorem Move.grow {n : Nat} {s s' : St} (h : Move n s s') : Inv s → Grow s s' := by
  induction h with
  | refl s => exact fun _ => Grow.refl s
  | trans _ _ ih1 ih2 => exact fun hi => (ih1 hi).trans (ih2 (hi.of_grow (ih1 hi)))
  | handle s x => exact fun _ => Grow.refl s
  | fresh s _ => exact fun _ => fresh_grow s _ _
  | insert hins => exact fun hi => (hins.sameIds hi).grow
  | keep hd => exact fun hi => (detach_keep_sameIds hi hd).grow
  | miss hd =>
    intro hi
    rw [detach_none hd]; exact Grow.refl _
  | attach hd _ _ => exact fun hi => (attach_core hi _ hd).grow
  | newAttr s e _ _ => exact fun hi => newAttr_grow s hi e _ _
  | newValue hf _ _ => exact fun hi => setValue_core hi hf _
  | newData _ _ => exact fun hi => (update_sameIds _ _ _ hi.1 (fun m a => cnt_withData _ m a)).grow
  | split _ _ _ => exact fun hi => split_core (update_sameIds _ _ _ hi.1 (fun m a => cnt_withData _ m a)) hi _ _ _
  | @normalize s e en hf =>
    intro hi
    have := normalize_sameIds s e hi
    simp only [step, hf] at this
    exact this.grow

/-- every operation keeps the ids it found, at most once each, and adds only ids drawn from the allocation counter -/
theorem step_grow (s : St) (op : Op) (hi : Inv s) : Grow s (step s op).1 := (step_moves s op).grow hi

end XmlRs.Dom
