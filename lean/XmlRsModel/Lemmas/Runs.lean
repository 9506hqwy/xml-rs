import XmlRsModel.Peg
import XmlRsModel.Lemmas.PegSound
/-! Fuel-free reading of the interpreter: `Runs env g s out` says that `run env f g s = out` for every
    sufficiently large fuel `f`.  The rules below are the operational semantics of the PEG (ordered choice,
    greedy repetition) as composition lemmas; completeness statements about a grammar (this text IS parsed, to
    this tree) are built from them without any fuel arithmetic. -/
namespace XmlRs

def Runs (env : Env) (g : G) (s : Str) (out : Res CST) : Prop := ∃ n, ∀ f, n ≤ f → run env f g s = out
def RunsSeq (env : Env) (gs : List G) (s : Str) (out : Res (List CST)) : Prop := ∃ n, ∀ f, n ≤ f → runSeq env f gs s = out
def RunsAlt (env : Env) (gs : List G) (s : Str) (out : Res CST) : Prop := ∃ n, ∀ f, n ≤ f → runAlt env f gs s = out
def RunsMany (env : Env) (g : G) (s : Str) (out : Res (List CST)) : Prop := ∃ n, ∀ f, n ≤ f → runMany env f g s = out

variable {env : Env}

private theorem ev_mono {P Q : Nat → Prop} (h : ∃ n, ∀ f, n ≤ f → P f) (step : ∀ f, P f → Q f) : ∃ n, ∀ f, n ≤ f → Q f :=
  let ⟨n, h⟩ := h; ⟨n, fun f hf => step f (h f hf)⟩

private theorem ev_succ {P Q : Nat → Prop} (h : ∃ n, ∀ f, n ≤ f → P f) (step : ∀ f, P f → Q (f + 1)) : ∃ n, ∀ f, n ≤ f → Q f :=
  let ⟨n, h⟩ := h; ⟨n + 1, fun f hf => by obtain ⟨f', rfl⟩ : ∃ f', f = f' + 1 := ⟨f - 1, by omega⟩; exact step f' (h f' (by omega))⟩

private theorem ev_and {P Q : Nat → Prop} (h1 : ∃ n, ∀ f, n ≤ f → P f) (h2 : ∃ n, ∀ f, n ≤ f → Q f) : ∃ n, ∀ f, n ≤ f → P f ∧ Q f :=
  let ⟨n1, h1⟩ := h1; let ⟨n2, h2⟩ := h2; ⟨max n1 n2, fun f hf => ⟨h1 f (by omega), h2 f (by omega)⟩⟩

theorem Runs.of_forall {g : G} {s : Str} {out : Res CST} (k : Nat) (h : ∀ f, run env (f + k) g s = out) : Runs env g s out :=
  ⟨k, fun f hf => by obtain ⟨f', rfl⟩ : ∃ f', f = f' + k := ⟨f - k, by omega⟩; exact h f'⟩

theorem Runs.of_run {g : G} {s : Str} {out : Res CST} (f : Nat) (h : run env f g s = out) (hne : out ≠ .fuel) : Runs env g s out :=
  ⟨f, fun _ hf => run_mono_le env hf h hne⟩

theorem Runs.agree {g : G} {s : Str} {o1 o2 : Res CST} (h1 : Runs env g s o1) (h2 : Runs env g s o2) : o1 = o2 := by
  obtain ⟨n, h⟩ := ev_and h1 h2
  rw [← (h n (Nat.le_refl n)).1, ← (h n (Nat.le_refl n)).2]

theorem Runs.at_fuel {g : G} {s : Str} {out : Res CST} (h : Runs env g s out) (f : Nat) :
    run env f g s = out ∨ run env f g s = .fuel := by
  by_cases hf : run env f g s = .fuel
  · exact .inr hf
  · exact .inl (Runs.agree (Runs.of_run f rfl hf) h)

theorem Runs.tag_ok (t r : Str) : Runs env (.tag t) (t ++ r) (.ok (.leaf t) r) :=
  Runs.of_forall 1 fun _ => by simp [run, stripPrefix_append]

theorem Runs.tag_fail {t s : Str} (h : stripPrefix t s = none) : Runs env (.tag t) s .fail :=
  Runs.of_forall 1 fun _ => by simp [run, h]

theorem Runs.one_ok {p : Char → Bool} {c : Char} (r : Str) (h : p c = true) : Runs env (.one p) (c :: r) (.ok (.leaf [c]) r) :=
  Runs.of_forall 1 fun _ => by simp [run, h]

theorem Runs.one_fail {p : Char → Bool} {c : Char} (r : Str) (h : p c = false) : Runs env (.one p) (c :: r) .fail :=
  Runs.of_forall 1 fun _ => by simp [run, h]

theorem Runs.one_nil {p : Char → Bool} : Runs env (.one p) [] .fail :=
  Runs.of_forall 1 fun _ => by simp [run]

theorem Runs.cls0 (p : Char → Bool) (s : Str) : Runs env (.cls0 p) s (.ok (.leaf (spanP p s).1) (spanP p s).2) :=
  Runs.of_forall 1 fun _ => by simp [run]

theorem Runs.cls1_ok {p : Char → Bool} {s : Str} (h : (spanP p s).1 ≠ []) :
    Runs env (.cls1 p) s (.ok (.leaf (spanP p s).1) (spanP p s).2) :=
  Runs.of_forall 1 fun _ => by simp [run, h]

theorem Runs.cls1_fail {p : Char → Bool} {s : Str} (h : (spanP p s).1 = []) : Runs env (.cls1 p) s .fail :=
  Runs.of_forall 1 fun _ => by simp [run, h]

theorem Runs.until0 (p : Char → Bool) (stop s : Str) :
    Runs env (.until0 p stop) s (.ok (runUntil0 p stop s).1 (runUntil0 p stop s).2) :=
  Runs.of_forall 1 fun _ => by simp [run]

theorem RunsSeq.nil (s : Str) : RunsSeq env [] s (.ok [] s) := ⟨0, fun f _ => by cases f <;> simp [runSeq]⟩

theorem RunsSeq.cons {g : G} {gs : List G} {s r r' : Str} {c : CST} {ks : List CST}
    (h1 : Runs env g s (.ok c r)) (h2 : RunsSeq env gs r (.ok ks r')) : RunsSeq env (g :: gs) s (.ok (c :: ks) r') :=
  ev_mono (ev_and h1 h2) fun _ h => by simp [runSeq, h.1, h.2]

theorem RunsSeq.fail_head {g : G} {gs : List G} {s : Str} (h1 : Runs env g s .fail) : RunsSeq env (g :: gs) s .fail :=
  ev_mono h1 fun _ h => by simp [runSeq, h]

theorem RunsSeq.fail_tail {g : G} {gs : List G} {s r : Str} {c : CST}
    (h1 : Runs env g s (.ok c r)) (h2 : RunsSeq env gs r .fail) : RunsSeq env (g :: gs) s .fail :=
  ev_mono (ev_and h1 h2) fun _ h => by simp [runSeq, h.1, h.2]

theorem Runs.seq {gs : List G} {s r : Str} {ks : List CST} (h : RunsSeq env gs s (.ok ks r)) :
    Runs env (.seq gs) s (.ok (.seq ks) r) :=
  ev_succ h fun _ h => by simp [run, h]

theorem Runs.seq_fail {gs : List G} {s : Str} (h : RunsSeq env gs s .fail) : Runs env (.seq gs) s .fail :=
  ev_succ h fun _ h => by simp [run, h]

theorem Runs.seq2 {g1 g2 : G} {s r1 r : Str} {c1 c2 : CST} (h1 : Runs env g1 s (.ok c1 r1)) (h2 : Runs env g2 r1 (.ok c2 r)) :
    Runs env (.seq [g1, g2]) s (.ok (.seq [c1, c2]) r) :=
  Runs.seq (.cons h1 (.cons h2 (.nil r)))

theorem Runs.seq3 {g1 g2 g3 : G} {s r1 r2 r : Str} {c1 c2 c3 : CST} (h1 : Runs env g1 s (.ok c1 r1)) (h2 : Runs env g2 r1 (.ok c2 r2))
    (h3 : Runs env g3 r2 (.ok c3 r)) : Runs env (.seq [g1, g2, g3]) s (.ok (.seq [c1, c2, c3]) r) :=
  Runs.seq (.cons h1 (.cons h2 (.cons h3 (.nil r))))

theorem Runs.seq_fail_head {g : G} {gs : List G} {s : Str} (h : Runs env g s .fail) : Runs env (.seq (g :: gs)) s .fail :=
  Runs.seq_fail (RunsSeq.fail_head h)

theorem RunsAlt.nil (s : Str) : RunsAlt env [] s .fail := ⟨0, fun f _ => by cases f <;> simp [runAlt]⟩

theorem RunsAlt.hit {g : G} {gs : List G} {s r : Str} {c : CST} (h : Runs env g s (.ok c r)) :
    RunsAlt env (g :: gs) s (.ok c r) :=
  ev_mono h fun _ h => by simp [runAlt, h]

theorem RunsAlt.skip {g : G} {gs : List G} {s : Str} {out : Res CST} (h1 : Runs env g s .fail) (h2 : RunsAlt env gs s out) :
    RunsAlt env (g :: gs) s out :=
  ev_mono (ev_and h1 h2) fun _ h => by simp [runAlt, h.1, h.2]

theorem Runs.alt {gs : List G} {s : Str} {out : Res CST} (h : RunsAlt env gs s out) : Runs env (.alt gs) s out :=
  ev_succ h fun _ h => by simp [run, h]

theorem RunsMany.stop {g : G} {s : Str} (h : Runs env g s .fail) : RunsMany env g s (.ok [] s) :=
  ev_succ h fun _ h => by simp [runMany, h]

theorem RunsMany.step {g : G} {s r r' : Str} {c : CST} {ks : List CST} (h1 : Runs env g s (.ok c r))
    (hlt : r.length < s.length) (h2 : RunsMany env g r (.ok ks r')) : RunsMany env g s (.ok (c :: ks) r') :=
  ev_succ (ev_and h1 h2) fun _ h => by simp [runMany, h.1, h.2, hlt]

theorem Runs.many {g : G} {s r : Str} {ks : List CST} (h : RunsMany env g s (.ok ks r)) :
    Runs env (.many0 g) s (.ok (.many ks) r) :=
  ev_succ h fun _ h => by simp [run, h]

theorem Runs.verify_ok {g : G} {p : CST → Bool} {s r : Str} {c : CST} (h : Runs env g s (.ok c r)) (hp : p c = true) :
    Runs env (.verify g p) s (.ok c r) :=
  ev_succ h fun _ h => by simp [run, h, hp]

theorem Runs.verify_reject {g : G} {p : CST → Bool} {s r : Str} {c : CST} (h : Runs env g s (.ok c r)) (hp : p c = false) :
    Runs env (.verify g p) s .fail :=
  ev_succ h fun _ h => by simp [run, h, hp]

theorem Runs.verify_fail {g : G} {p : CST → Bool} {s : Str} (h : Runs env g s .fail) : Runs env (.verify g p) s .fail :=
  ev_succ h fun _ h => by simp [run, h]

theorem Runs.nt {n : Nat} {s r : Str} {c : CST} (h : Runs env (env n) s (.ok c r)) : Runs env (.nt n) s (.ok (.node n c) r) :=
  ev_succ h fun _ h => by simp [run, h]

theorem Runs.nt_fail {n : Nat} {s : Str} (h : Runs env (env n) s .fail) : Runs env (.nt n) s .fail :=
  ev_succ h fun _ h => by simp [run, h]

theorem Runs.nt_of {n : Nat} {g : G} (hg : env n = g) {s r : Str} {c : CST} (h : Runs env g s (.ok c r)) :
    Runs env (.nt n) s (.ok (.node n c) r) := Runs.nt (hg ▸ h)

theorem Runs.nt_fail_of {n : Nat} {g : G} (hg : env n = g) {s : Str} (h : Runs env g s .fail) : Runs env (.nt n) s .fail :=
  Runs.nt_fail (hg ▸ h)

theorem Runs.opt_some {g : G} {s r : Str} {c : CST} (h : Runs env g s (.ok c r)) : Runs env (.alt [g, .seq []]) s (.ok c r) :=
  Runs.alt (RunsAlt.hit h)

theorem Runs.opt_none {g : G} {s : Str} (h : Runs env g s .fail) : Runs env (.alt [g, .seq []]) s (.ok (.seq []) s) :=
  Runs.alt (RunsAlt.skip h (RunsAlt.hit (Runs.seq (RunsSeq.nil s))))

end XmlRs
