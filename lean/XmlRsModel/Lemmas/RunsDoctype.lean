import XmlRsModel.Lemmas.RunsDtdSubset
/-! Completeness of the internal subset loop and of the DOCTYPE declaration. -/
namespace XmlRs.Lex
open XmlRs Gen.Xml XmlRs.Names

def cstDtdItem : CDtdItem → CST
  | .ws w => .node N.decl_sep (.leaf w)
  | .comment s => .node N.markup_decl (cstComment s)
  | .pi t b => .node N.markup_decl (cstPI t b)
  | .elementDecl w0 n w1 spec w2 => .node N.markup_decl (cstElementDecl w0 n w1 spec w2)
  | .attlist w0 e defs w1 => .node N.markup_decl (cstAttlist w0 e defs w1)
  | .entity w0 n w1 d w2 => .node N.markup_decl (cstEntity w0 n w1 d w2)
  | .notationDecl w0 n w1 id w2 => .node N.markup_decl (cstNotation w0 n w1 id w2)

theorem element_decl_fails {I : Str} (h : stripPrefix kwELEMENT I = none) : Runs env (.nt N.element_decl) I .fail :=
  Runs.nt_fail_of env_element_decl (Runs.seq_fail_head (Runs.seq_fail_head (Runs.tag_fail h)))

theorem attlist_decl_fails {I : Str} (h : stripPrefix kwATTLIST I = none) : Runs env (.nt N.attlist_decl) I .fail :=
  Runs.nt_fail_of env_attlist_decl (Runs.seq_fail_head (Runs.seq_fail_head (Runs.tag_fail h)))

theorem entity_decl_fails {I : Str} (h : stripPrefix kwENTITY I = none) : Runs env (.nt N.entity_decl) I .fail :=
  Runs.nt_fail_of env_entity_decl (Runs.alt
    (.skip (Runs.nt_fail_of env_ge_decl (Runs.seq_fail_head (Runs.seq_fail_head (Runs.seq_fail_head (Runs.tag_fail h)))))
    (.skip (Runs.nt_fail_of env_pe_decl (Runs.seq_fail_head (Runs.seq_fail_head (Runs.seq_fail_head (Runs.tag_fail h))))) (.nil _))))

theorem notation_decl_fails {I : Str} (h : stripPrefix kwNOTATION I = none) : Runs env (.nt N.notation_decl) I .fail :=
  Runs.nt_fail_of env_notation_decl (Runs.seq_fail_head (Runs.seq_fail_head (Runs.seq_fail_head (Runs.tag_fail h))))

theorem markup_fails_nonlt {I : Str} (h : Stops (· == '<') I) : Runs env (.nt N.markup_decl) I .fail :=
  Runs.nt_fail_of env_markup_decl (Runs.alt (.skip (element_decl_fails (strip_of_stops _ h)) (.skip (attlist_decl_fails (strip_of_stops _ h))
    (.skip (entity_decl_fails (strip_of_stops _ h)) (.skip (notation_decl_fails (strip_of_stops _ h))
    (.skip (pi_fails (strip_of_stops _ h)) (.skip (comment_fails (strip_of_stops _ h)) (.nil _))))))))

/-- the alternatives of `markup_decl` are told apart by their opening literals -/
theorem runs_markup_item (i : CDtdItem) (hi : okDtdItem i = true) (hnw : isWsDtd i = false) (Y : Str) :
    Runs env (.nt N.markup_decl) (i.str ++ Y) (.ok (cstDtdItem i) Y) := by
  cases i with
  | ws w => cases hnw
  | elementDecl w0 n w1 spec w2 => exact Runs.nt_of env_markup_decl (Runs.alt (.hit (runs_element_decl hi Y)))
  | attlist w0 e defs w1 => exact Runs.nt_of env_markup_decl (Runs.alt (.skip (element_decl_fails rfl) (.hit (runs_attlist hi Y))))
  | entity w0 n w1 d w2 =>
    exact Runs.nt_of env_markup_decl (Runs.alt (.skip (element_decl_fails rfl) (.skip (attlist_decl_fails rfl) (.hit (runs_entity hi Y)))))
  | notationDecl w0 n w1 id w2 =>
    exact Runs.nt_of env_markup_decl (Runs.alt (.skip (element_decl_fails rfl) (.skip (attlist_decl_fails rfl) (.skip (entity_decl_fails rfl)
      (.hit (runs_notation hi Y))))))
  | pi t b =>
    exact Runs.nt_of env_markup_decl (Runs.alt (.skip (element_decl_fails rfl) (.skip (attlist_decl_fails rfl) (.skip (entity_decl_fails rfl)
      (.skip (notation_decl_fails rfl) (.hit (runs_pi Y hi)))))))
  | comment s =>
    exact Runs.nt_of env_markup_decl (Runs.alt (.skip (element_decl_fails rfl) (.skip (attlist_decl_fails rfl) (.skip (entity_decl_fails rfl)
      (.skip (notation_decl_fails rfl) (.skip (pi_fails rfl) (.hit (runs_comment Y hi))))))))

def subsetItemG : G := G.alt [G.nt N.markup_decl, G.nt N.decl_sep]

theorem dtd_item_head (i : CDtdItem) (hi : okDtdItem i = true) : ∃ c t, i.str = c :: t ∧ (isWsDtd i = false → c = '<') := by
  cases i with
  | ws w =>
    cases w with
    | nil => cases hi
    | cons d ds => exact ⟨d, ds, rfl, fun h => by cases h⟩
  | _ => exact ⟨'<', _, rfl, fun _ => rfl⟩

theorem runs_subset_loop : ∀ (items : List CDtdItem), items.all okDtdItem = true → adjWsD items = false → ∀ Y : Str,
    RunsMany env subsetItemG (dtdText items ++ ']' :: Y) (.ok (items.map cstDtdItem) (']' :: Y))
  | [], _, _, Y =>
    .stop (Runs.alt (.skip (markup_fails_nonlt (.cons _ (by decide))) (.skip (Runs.nt_fail_of env_decl_sep
      (Runs.alt (.skip (pe_reference_fail (.cons _ (by decide))) (.skip (runs_cls1_fail (.cons _ (by decide))) (.nil _))))) (.nil _))))
  | i :: rest, hok, hadj, Y => by
    simp only [List.all_cons, Bool.and_eq_true] at hok
    have hadj' : adjWsD rest = false := by simp only [adjWsD, Bool.or_eq_false_iff] at hadj; exact hadj.2
    obtain ⟨c, t, ec, _⟩ := dtd_item_head i hok.1
    simp only [dtdText, List.map_cons, List.append_assoc]
    refine .step (r := dtdText rest ++ ']' :: Y) (Runs.alt ?_)
      (by rw [ec]; simp only [List.cons_append, List.length_cons, List.length_append]; omega) (runs_subset_loop rest hok.2 hadj' Y)
    cases hw : isWsDtd i with
    | false => exact .hit (runs_markup_item i hok.1 hw _)
    | true =>
      obtain ⟨w, rfl⟩ : ∃ w, i = .ws w := by cases i <;> first | exact ⟨_, rfl⟩ | cases hw
      have h1 : okWs1 w = true := hok.1
      -- what follows the white space is not white space
      have hst : Stops P.isSpace (dtdText rest ++ ']' :: Y) := by
        cases rest with
        | nil => exact .cons _ (by decide)
        | cons j r' =>
          simp only [adjWsD, isWsDtd, Bool.true_and, Bool.or_eq_false_iff] at hadj
          simp only [List.all_cons, Bool.and_eq_true] at hok
          obtain ⟨c', t', ec', hc'⟩ := dtd_item_head j hok.2.1
          rw [dtdText, ec', hc' hadj.1]
          exact .cons _ (by decide)
      exact .skip (markup_fails_nonlt (.ws1 (ne_of_space (by decide)) h1 _))
        (.hit (Runs.nt_of env_decl_sep (Runs.alt
          (.skip (pe_reference_fail (.ws1 (ne_of_space (by decide)) h1 _))
          (.hit (runs_ws1 h1 hst))))))

def cstExtPart : Option (Str × CExtId) → CST
  | none => .seq []
  | some (w, id) => .seq [.leaf w, cstExtId id]

def cstSubsetPart : Option (List CDtdItem × Str) → CST
  | none => .seq []
  | some (items, w2) => .seq [.leaf ['['], .node N.int_subset (.many (items.map cstDtdItem)), .seq [.leaf [']'], .leaf w2]]

def cstDoctype (d : CDoctype) : CST :=
  .node N.doctype_decl (.seq [.seq [.seq [.leaf kwDOCTYPE, .leaf d.ws0], cstQN d.name], .seq [cstExtPart d.ext, .leaf d.ws1],
    .seq [cstSubsetPart d.subset, .leaf ['>']]])

theorem okDoctype_parts {d : CDoctype} (h : okDoctype d = true) :
    okWs1 d.ws0 = true ∧ okQN d.name = true ∧ (∀ w id, d.ext = some (w, id) → okWs1 w = true ∧ okExtId id = true) ∧ okWs d.ws1 = true ∧
    (∀ items w2, d.subset = some (items, w2) → items.all okDtdItem = true ∧ adjWsD items = false ∧ okWs w2 = true) := by
  simp only [okDoctype, Bool.and_eq_true] at h
  obtain ⟨⟨⟨⟨h1, h2⟩, h3⟩, h4⟩, h5⟩ := h
  refine ⟨h1, h2, ?_, h4, ?_⟩
  · intro w id he; rw [he] at h3; simpa using h3
  · intro items w2 he
    rw [he] at h5
    simp only [Bool.and_eq_true, Bool.not_eq_true'] at h5
    exact ⟨h5.1.1, h5.1.2, h5.2⟩

theorem runs_subset_part {sub : Option (List CDtdItem × Str)}
    (hsub : ∀ items w2, sub = some (items, w2) → items.all okDtdItem = true ∧ adjWsD items = false ∧ okWs w2 = true) (Y : Str) :
    Runs env (.seq [.alt [.seq [.tag ['['], .nt N.int_subset, .seq [.tag [']'], .cls0 P.isSpace]], .seq []], .tag ['>']])
      (subsetText sub ++ '>' :: Y) (.ok (.seq [cstSubsetPart sub, .leaf ['>']]) Y) := by
  cases sub with
  | none => exact Runs.seq2 (Runs.opt_none (Runs.seq_fail_head (Runs.tag_fail rfl))) (Runs.tag_ok ['>'] Y)
  | some v =>
    obtain ⟨items, w2⟩ := v
    obtain ⟨b1, b2, b3⟩ := hsub items w2 rfl
    simp only [subsetText, List.cons_append, List.append_assoc]
    exact Runs.seq2 (Runs.opt_some
      (Runs.seq3 (Runs.tag_ok ['['] _) (Runs.nt_of env_int_subset (Runs.many (runs_subset_loop items b1 b2 (w2 ++ '>' :: Y))))
        (Runs.seq2 (Runs.tag_ok [']'] _) (runs_cls0 b3 (.cons _ sp_gt))))) (Runs.tag_ok ['>'] Y)

theorem runs_ext_part {ext : Option (Str × CExtId)} (hext : ∀ w id, ext = some (w, id) → okWs1 w = true ∧ okExtId id = true) {w1 : Str}
    (h1 : okWs w1 = true) {c : Char} (hc : c = '[' ∨ c = '>') (r : Str) :
    Runs env (.seq [.alt [.seq [.cls1 P.isSpace, .nt N.external_id], .seq []], .cls0 P.isSpace]) (extText ext ++ (w1 ++ c :: r))
      (.ok (.seq [cstExtPart ext, .leaf w1]) (c :: r)) := by
  have hsp : Stops P.isSpace (c :: r) := .cons _ (by rcases hc with rfl | rfl <;> decide)
  cases ext with
  | none =>
    exact Runs.seq2 (Runs.opt_none (Runs.seq_fail (ws1_then_fails h1 hsp
      (external_id_fails (strip_cons_ne _ _ (by rcases hc with rfl | rfl <;> decide)) (strip_cons_ne _ _ (by rcases hc with rfl | rfl <;> decide)))))) (runs_cls0 h1 hsp)
  | some v =>
    obtain ⟨w, id⟩ := v
    obtain ⟨c1, c2⟩ := hext w id rfl
    simp only [extText, List.append_assoc]
    exact Runs.seq2 (Runs.opt_some (runs_ws1_then c1 (extId_stops (by decide) (by decide) id _) (runs_external_id c2 _))) (runs_cls0 h1 hsp)

theorem runs_doctype {d : CDoctype} (h : okDoctype d = true) (Y : Str) :
    Runs env (.nt N.doctype_decl) (d.str ++ Y) (.ok (cstDoctype d) Y) := by
  obtain ⟨h0, hn, hext, h1, hsub⟩ := okDoctype_parts h
  obtain ⟨tc, tr, etail, htc⟩ : ∃ c r, subsetText d.subset ++ '>' :: Y = c :: r ∧ (c = '[' ∨ c = '>') := by
    cases d.subset with
    | none => exact ⟨'>', Y, rfl, .inr rfl⟩
    | some v => exact ⟨'[', _, rfl, .inl rfl⟩
  have hmid := runs_ext_part hext h1 htc tr
  have hqstop : Stops P.isNameChar (extText d.ext ++ (d.ws1 ++ tc :: tr)) := by
    cases he : d.ext with
    | none => exact .ws nc_space h1 fun _ => .cons _ (by rcases htc with rfl | rfl <;> decide)
    | some v =>
      simp only [extText, List.append_assoc]
      exact .ws1 nc_space (hext v.1 v.2 he).1 _
  rw [← etail] at hmid hqstop
  simp only [CDoctype.str, List.append_assoc, List.cons_append, List.nil_append]
  exact Runs.nt_of env_doctype_decl (Runs.seq3 (Runs.seq2 (runs_tag_ws1 kwDOCTYPE h0 (stops_space_name hn _)) (runs_qname hn hqstop)) hmid (runs_subset_part hsub Y))

end XmlRs.Lex
