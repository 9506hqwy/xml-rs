import XmlRsModel.Lemmas.XAbsExpr
/-! `absNode (tree of a spelling) = the abstract expression the spelling denotes`: the induction over expressions, tails,
    arguments, relative paths, steps and predicates.  The fuel of `absNode` is bounded from below by the size of the
    tree, so every sub-tree has enough of it. -/
namespace XmlRs.XLex
open XmlRs XmlRs.XPath XmlRs.Lex
open Gen.XPath

mutual
theorem abs_x : ∀ (e : CX) (l : Nat), okAt l e = true → ∀ f, (cstX e).size ≤ f → absNode f (xLabel e) (xBody e) = e.erase
  | .chain l' a r, l, hok, f, hf => by
    obtain ⟨rfl, hl5, ha, hr⟩ := (okAt_iff _ _).mp hok
    simp only [cstX, CST.size, sizeL] at hf
    obtain ⟨g, rfl⟩ := Nat.exists_eq_add_of_le' (show 3 ≤ f by omega)
    have iha := abs_x a (l + 1) ha (g + 1) (by omega)
    have ihr := abs_tail r l (endsRoot a) hr (Or.inl hl5) (g + 1) (by omega) a.erase
    simp only [xLabel, xBody, nodeBody, cstX, CX.erase]
    rw [absNode_level l hl5]
    exact absChain_body (iha ▸ ihr)
  | .unary ms e, l, hok, f, hf => by
    obtain ⟨_, hms, he⟩ := (okAt_iff _ _).mp hok
    simp only [cstX, CST.size, sizeL] at hf
    obtain ⟨g, rfl⟩ := Nat.exists_eq_add_of_le' (show 1 ≤ f by omega)
    have ih := abs_x e 7 he g (by omega)
    simp only [xLabel, xBody, nodeBody, cstX, CX.erase]
    rw [cstX_eq e, absNode_unary_cst g ms hms, ih]
  | .union a r, l, hok, f, hf => by
    obtain ⟨_, ha, hr⟩ := (okAt_iff _ _).mp hok
    simp only [cstX, CST.size, sizeL] at hf
    obtain ⟨g, rfl⟩ := Nat.exists_eq_add_of_le' (show 3 ≤ f by omega)
    have iha := abs_x a 8 ha (g + 1) (by omega)
    have ihr := abs_tail r 7 (endsRoot a) hr (Or.inr rfl) (g + 1) (by omega) a.erase
    simp only [xLabel, xBody, nodeBody, cstX, CX.erase]
    rw [absNode_union]
    exact absChain_body (iha ▸ ihr)
  | .pathF a, l, hok, f, hf => by
    have ha := ((okAt_iff _ _).mp hok).2
    simp only [cstX, CST.size, sizeL] at hf
    obtain ⟨g, rfl⟩ := Nat.exists_eq_add_of_le' (show 3 ≤ f by omega)
    have iha := abs_x a 9 ha (g + 2) (by omega)
    rw [ok9_label ha, absNode_filter] at iha
    simp only [xLabel, xBody, nodeBody, cstX, CX.erase]
    rw [absNode_path, cstX_eq a, ok9_label ha, absPath_F, iha]
  | .pathFR a w1 ds w2 rel, l, hok, f, hf => by
    obtain ⟨_, ha, h1, h2, hrel⟩ := (okAt_iff _ _).mp hok
    simp only [cstX, cstRel_eq, CST.size, sizeL] at hf
    obtain ⟨g, rfl⟩ := Nat.exists_eq_add_of_le' (show 3 ≤ f by omega)
    have iha := abs_x a 9 ha (g + 2) (by omega)
    rw [ok9_label ha, absNode_filter] at iha
    have ihr := abs_rel rel hrel (g + 1) (by omega)
    simp only [xLabel, xBody, nodeBody, cstX, CX.erase]
    rw [absNode_path, cstX_eq a, ok9_label ha, absPath_FR _ _ ds rel h1 h2, iha, ihr]
  | .pathAbs ds w rel, l, hok, f, hf => by
    obtain ⟨_, h1, hrel⟩ := (okAt_iff _ _).mp hok
    simp only [cstX, cstRel_eq, CST.size, sizeL] at hf
    obtain ⟨g, rfl⟩ := Nat.exists_eq_add_of_le' (show 2 ≤ f by omega)
    have ihr := abs_rel rel hrel g (by omega)
    simp only [xLabel, xBody, nodeBody, cstX, CX.erase]
    rw [absNode_path, absPath_Abs _ ds rel h1, ihr]
  | .pathRel rel, l, hok, f, hf => by
    simp only [cstX, cstRel_eq, CST.size] at hf
    obtain ⟨g, rfl⟩ := Nat.exists_eq_add_of_le' (show 2 ≤ f by omega)
    have ihr := abs_rel rel ((okAt_iff _ _).mp hok).2 g (by omega)
    simp only [xLabel, xBody, nodeBody, cstX, CX.erase]
    rw [absNode_path, absPath_Rel, ihr]
  | .pathRoot, l, hok, f, hf => by
    simp only [cstX, CST.size] at hf
    obtain ⟨g, rfl⟩ := Nat.exists_eq_add_of_le' (show 2 ≤ f by omega)
    simp only [xLabel, xBody, nodeBody, cstX, CX.erase]
    rw [absNode_path, absPath_Root]
  | .filter p preds, l, hok, f, hf => by
    obtain ⟨_, hp, hpr⟩ := (okAt_iff _ _).mp hok
    simp only [cstX, CST.size, sizeL] at hf
    obtain ⟨g, rfl⟩ := Nat.exists_eq_add_of_le' (show 2 ≤ f by omega)
    have ihp := abs_x p 10 hp g (by omega)
    have ihpr := abs_preds preds hpr g (by omega)
    rw [ok10_label hp] at ihp
    simp only [xLabel, xBody, nodeBody, cstX]
    rw [absNode_filter, cstX_eq p, ok10_label hp, absFilter_body, ihp, ihpr]
    cases preds <;> simp [predBodies, CX.erase]
  | .var q, l, hok, f, hf => by
    simp only [cstX, CST.size, sizeL] at hf
    obtain ⟨g, rfl⟩ := Nat.exists_eq_add_of_le' (show 3 ≤ f by omega)
    simp only [xLabel, xBody, nodeBody, cstX, CX.erase]
    rw [absNode_primary, absPrimary_node, absNode_var_cst]
  | .paren w1 e w2, l, hok, f, hf => by
    have he : okAt 0 e = true := ((okAt_iff _ _).mp hok).2.2.1
    simp only [cstX, CST.size, sizeL] at hf
    obtain ⟨g, rfl⟩ := Nat.exists_eq_add_of_le' (show 4 ≤ f by omega)
    have ih := abs_x e 0 he g (by omega)
    simp only [xLabel, xBody, nodeBody, cstX, CX.erase]
    rw [absNode_primary, absPrimary_paren, cstX_eq e, absNode_delegate (.inl rfl), ih]
  | .lit q s, l, hok, f, hf => by
    simp only [cstX, CST.size, sizeL, cstLit] at hf
    obtain ⟨g, rfl⟩ := Nat.exists_eq_add_of_le' (show 3 ≤ f by omega)
    simp only [xLabel, xBody, nodeBody, cstX, CX.erase]
    rw [absNode_primary, cstLit_eq, absPrimary_node, absNode_literal, absLiteral_lit]
  | .num s, l, hok, f, hf => by
    obtain ⟨nb, hnb, hfl⟩ := cstNum_node ((okAt_iff _ _).mp hok).2
    simp only [cstX, hnb, CST.size] at hf
    have := size_pos nb
    obtain ⟨g, rfl⟩ := Nat.exists_eq_add_of_le' (show 3 ≤ f by omega)
    simp only [xLabel, xBody, nodeBody, cstX, CX.erase]
    rw [absNode_primary, hnb, absPrimary_node, absNode_number, hfl]
  | .call fn w1 w2 args w3, l, hok, f, hf => by
    have hargs : okArgs args = true := ((okAt_iff _ _).mp hok).2.2.2.2.2.1
    simp only [cstX, CST.size, sizeL] at hf
    obtain ⟨g, rfl⟩ := Nat.exists_eq_add_of_le' (show 4 ≤ f by omega)
    have ih := abs_args args hargs g (by omega)
    simp only [xLabel, xBody, nodeBody, cstX, CX.erase]
    rw [absNode_primary, absPrimary_node, absNode_call, absCall_body, ih]
theorem abs_tail : ∀ (t : CXTail) (l : Nat) (b : Bool), XPath.okTail l (l + 1) b t = true → (l ≤ 5 ∨ l = 7) → ∀ g, sizeL (cstTail t) ≤ g → ∀ acc : Expr,
    absChain.go g (opsOf l) (some acc) none (sigToks (.many (cstTail t))) = some (t.erase acc)
  | .nil, l, b, _, _, g, _, acc => go_nil ..
  | .cons w1 op w2 e t, l, b, hok, hl, g, hg, acc => by
    obtain ⟨rfl, h1, _, _, h2, he, ht⟩ := okTail_cons.mp hok
    simp only [cstTail, sizeL, CST.size] at hg
    have ih := abs_x e _ he g (by omega)
    have iht := abs_tail t _ (endsRoot e) ht hl g (by omega) (.bin op acc e.erase)
    rw [sig_tail_cons op e t h1 h2, go_leaf, opsOf_find op]
    show absChain.go g _ (some acc) (some op) _ = _
    rw [go_node_op, ih, iht]; rfl
theorem abs_args : ∀ (a : CArgs), okArgs a = true → ∀ g, (cstArgs a).size ≤ g → (cstArgs a).kidsL.map (fun (n, b) => absNode g n b) = a.erase
  | .none, _, g, _ => by simp [cstArgs, CST.kidsL, kidsLL, CArgs.erase]
  | .some a r, hok, g, hg => by
    simp only [okArgs, Bool.and_eq_true] at hok
    simp only [cstArgs, CST.size, sizeL] at hg
    obtain ⟨k, rfl⟩ := Nat.exists_eq_add_of_le' (show 4 ≤ g by omega)
    have ih := abs_x a 0 hok.1 k (by omega)
    have iht := abs_argtail r hok.2 (k + 4) (by omega)
    simp only [cstArgs, CST.kidsL, kidsLL, List.append_nil, List.cons_append, List.nil_append, List.map_cons, CArgs.erase]
    rw [absNode_arg, ih, iht]
theorem abs_argtail : ∀ (t : CArgTail), okArgTail t = true → ∀ g, sizeL (cstArgTail t) ≤ g → (kidsLL (cstArgTail t)).map (fun (n, b) => absNode g n b) = t.erase
  | .nil, _, g, _ => by simp [cstArgTail, kidsLL, CArgTail.erase]
  | .cons w1 w2 e t, hok, g, hg => by
    obtain ⟨_, _, he, ht⟩ := okArgTail_cons.mp hok
    simp only [cstArgTail, CST.size, sizeL] at hg
    obtain ⟨k, rfl⟩ := Nat.exists_eq_add_of_le' (show 4 ≤ g by omega)
    have ih := abs_x e 0 he k (by omega)
    have iht := abs_argtail t ht (k + 4) (by omega)
    simp only [cstArgTail, CST.kidsL, kidsLL, List.append_nil, List.cons_append, List.nil_append, List.map_cons, CArgTail.erase]
    rw [absNode_arg, ih, iht]
theorem abs_rel : ∀ (r : CRel), okRel r = true → ∀ g, (relBody r).size ≤ g → absRel g (relBody r) = r.erase
  | .mk s t, hok, g, hg => by
    simp only [okRel, Bool.and_eq_true] at hok
    simp only [relBody, cstStep_eq, CST.size, sizeL] at hg
    obtain ⟨k, rfl⟩ := Nat.exists_eq_add_of_le' (show 1 ≤ g by omega)
    have ih := abs_step s hok.1 k (by omega)
    have iht := abs_reltail t hok.2 k (by omega)
    simp only [relBody, CRel.erase]
    rw [absRel_eq, sig_seq_cons, sig_seq_cons, sig_seq_nil, cstStep_eq, sig_node]
    simp only [List.cons_append, List.nil_append, List.append_nil]
    rw [absRel_go_step, ih, iht]
theorem abs_reltail : ∀ (t : CRelTail), okRelTail t = true → ∀ g, sizeL (cstRelTail t) ≤ g → absRel.go g (sigToks (.many (cstRelTail t))) = t.erase
  | .nil, _, g, _ => absRel_go_nil g
  | .cons w1 ds w2 s t, hok, g, hg => by
    obtain ⟨h1, h2, hs, ht⟩ := okRelTail_cons.mp hok
    simp only [cstRelTail, cstStep_eq, CST.size, sizeL] at hg
    have ih := abs_step s hs g (by omega)
    have iht := abs_reltail t ht g (by omega)
    rw [sig_reltail_cons ds s t h1 h2, absRel_go_leaf, absRel_go_step, ih, iht]
    simp [CRelTail.erase]
theorem abs_step : ∀ (s : CStep), okStep s = true → ∀ g, (stepBody s).size ≤ g → absStep g (stepBody s) = s.erase
  | .dot, _, g, hg => by
    simp only [stepBody, CST.size] at hg
    obtain ⟨k, rfl⟩ := Nat.exists_eq_add_of_le' (show 1 ≤ g by omega)
    rw [absStep_dot]; rfl
  | .dotdot, _, g, hg => by
    simp only [stepBody, CST.size] at hg
    obtain ⟨k, rfl⟩ := Nat.exists_eq_add_of_le' (show 1 ≤ g by omega)
    rw [absStep_dotdot]; rfl
  | .full ax w test preds, hok, g, hg => by
    obtain ⟨_, hw, ht, hp, _⟩ := okStep_full.mp hok
    simp only [stepBody, CST.size, sizeL] at hg
    obtain ⟨k, rfl⟩ := Nat.exists_eq_add_of_le' (show 1 ≤ g by omega)
    have ih := abs_preds preds hp k (by omega)
    rw [absStep_full _ ax hw ht hp, ih]; rfl
theorem abs_preds : ∀ (p : CPreds), okPreds p = true → ∀ g, sizeL (cstPreds p) ≤ g → (predBodies p).map (absPred g) = p.erase
  | .nil, _, g, _ => by simp [predBodies, CPreds.erase]
  | .cons w w1 e w2 t, hok, g, hg => by
    obtain ⟨_, _, he, _, ht⟩ := okPreds_cons.mp hok
    simp only [cstPreds, CST.size, sizeL] at hg
    obtain ⟨k, rfl⟩ := Nat.exists_eq_add_of_le' (show 5 ≤ g by omega)
    have ih := abs_x e 0 he k (by omega)
    have iht := abs_preds t ht (k + 5) (by omega)
    simp only [predBodies, List.map_cons, CPreds.erase]
    rw [absPred_body, absNode_delegate (.inr (.inl rfl)), cstX_eq e, absNode_delegate (.inl rfl), ih, iht]
end

end XmlRs.XLex
