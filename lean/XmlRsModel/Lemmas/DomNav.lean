import XmlRsModel.Lemmas.DomInv
/-! Navigation in a forest whose ids are pairwise distinct: the parent view (`parentIn`) and the
    child-list view (`findIn` + `kids`) agree. -/
namespace XmlRs.Dom
open List

/-- occurrences of `a` strictly below the root of `t` -/
def below (a : Nat) (t : Node) : Nat := cntL a t.attrs + cntL a t.kids

theorem cnt_eq_below (a : Nat) (t : Node) : cnt a t = (if t.id == a then 1 else 0) + below a t := by
  cases t with
  | mk j k d as ks => rw [cnt_mk, Nat.add_assoc]; rfl

/-- occurrences of `a` as the id of a member of the list / strictly below the members -/
def rootCnt (a : Nat) : List Node → Nat
  | [] => 0
  | n :: r => (if n.id == a then 1 else 0) + rootCnt a r
def insideL (a : Nat) : List Node → Nat
  | [] => 0
  | n :: r => below a n + insideL a r

theorem cntL_split (a : Nat) (l : List Node) : cntL a l = rootCnt a l + insideL a l := by
  induction l with
  | nil => rfl
  | cons n r ih => rw [cntL_cons, cnt_eq_below, ih]; simp only [rootCnt, insideL]; omega

theorem rootCnt_eq_count (a : Nat) (l : List Node) : rootCnt a l = count a (l.map (·.id)) := by
  induction l with
  | nil => rfl
  | cons n r ih => rw [rootCnt, ih, map_cons, count_cons, Nat.add_comm]

theorem rootCnt_pos_iff (c : Nat) (l : List Node) : 0 < rootCnt c l ↔ l.any (·.id == c) = true := by
  simp only [rootCnt_eq_count, count_pos_iff, mem_map, any_eq_true, beq_iff_eq]

theorem any_of_rootCnt_pos (c : Nat) (l : List Node) (h : 0 < rootCnt c l) : l.any (·.id == c) = true :=
  (rootCnt_pos_iff c l).mp h

theorem rootCnt_pos_of_mem (r : Node) (l : List Node) (h : r ∈ l) : 0 < rootCnt r.id l := by
  rw [rootCnt_eq_count, count_pos_iff]; exact mem_map_of_mem h

theorem below_pos_of_kid (c : Nat) (n : Node) (h : n.kids.any (·.id == c) = true) : 0 < below c n := by
  have := (rootCnt_pos_iff c n.kids).mpr h
  have := cntL_split c n.kids
  unfold below; omega

theorem isSubL_inside (a : Nat) (m : Node) (l : List Node) (h : isSubL m l) : below a m ≤ insideL a l := by
  induction l using forest_induct with
  | nil => cases h
  | cons j k d as ks r _ _ ihS ihR =>
    have e : insideL a (.mk j k d as ks :: r) = cntL a (as ++ ks) + insideL a r := by rw [cntL_append]; rfl
    rcases (isSubL_cons_mk ..).mp h with rfl | h | h
    · rw [e, cntL_append]; exact Nat.le_add_right _ _
    · have := ihS h; have := cntL_split a (as ++ ks); omega
    · have := ihR h; omega

/-! ### the equations of `parentIn` / `parentInL` -/
theorem parentInL_nil (c : Nat) : parentInL c [] = none := by simp only [parentInL]

theorem parentInL_cons (c : Nat) (n : Node) (r : List Node) : parentInL c (n :: r) = (parentIn c n).or (parentInL c r) := by
  simp only [parentInL, Option.orElse_eq_or]

theorem parentInL_append (c : Nat) (a b : List Node) : parentInL c (a ++ b) = (parentInL c a).or (parentInL c b) := by
  induction a with
  | nil => rw [nil_append, parentInL_nil, Option.none_or]
  | cons n r ih => rw [cons_append, parentInL_cons, parentInL_cons, ih, Option.or_assoc]

theorem parentIn_mk_kid {c : Nat} {ks : List Node} (h : ks.any (·.id == c) = true) (j : Nat) (k : Kind) (d : Str)
    (as : List Node) : parentIn c (.mk j k d as ks) = some j := by
  simp only [parentIn, h, if_true]

theorem parentIn_mk_sub {c : Nat} {ks : List Node} (h : ¬ks.any (·.id == c) = true) (j : Nat) (k : Kind) (d : Str)
    (as : List Node) : parentIn c (.mk j k d as ks) = parentInL c (as ++ ks) := by
  simp only [parentIn, h, Bool.false_eq_true, if_false, parentInL_append, Option.orElse_eq_or]

/-- a parent is only reported for an id that occurs below a root -/
theorem parentInL_none (c : Nat) (l : List Node) (h : insideL c l = 0) : parentInL c l = none := by
  induction l using forest_induct with
  | nil => exact parentInL_nil c
  | cons j k d as ks r _ _ ihS ihR =>
    have e : insideL c (.mk j k d as ks :: r) = cntL c as + cntL c ks + insideL c r := rfl
    have hs := cntL_split c (as ++ ks)
    have hk := cntL_split c ks
    rw [cntL_append] at hs
    have hks : ¬ks.any (·.id == c) = true := fun hx => by have := (rootCnt_pos_iff c ks).mpr hx; omega
    rw [parentInL_cons, parentIn_mk_sub hks, ihS (by omega), ihR (by omega)]; rfl

/-- CHILD ⇒ PARENT: in a forest with pairwise distinct ids, the node whose child list holds `c` is
    the parent reported for `c` -/
theorem parentInL_of_kid (p c : Nat) (l : List Node) (pn : Node) (hnd : ∀ a, cntL a l ≤ 1) (hf : findInL p l = some pn)
    (hk : pn.kids.any (·.id == c) = true) : parentInL c l = some p := by
  induction l using forest_induct with
  | nil => rw [findInL_nil] at hf; cases hf
  | cons j k d as ks r _ _ ihS ihR =>
    have hb := below_pos_of_kid c pn hk
    have hc := hnd c
    rw [cntL_cons_mk] at hc
    rw [findInL_cons] at hf
    rw [parentInL_cons]
    by_cases hj : j = p
    · subst hj; rw [findIn_mk_self, Option.some_or] at hf; cases hf
      rw [parentIn_mk_kid (ks := ks) hk]; rfl
    · rw [findIn_mk_ne hj, Option.or_eq_some_iff] at hf
      rcases hf with hf | ⟨_, hf⟩
      · -- `c` is inside `as ++ ks`: it is not also a root of `ks`
        have := isSubL_inside c pn _ (isSubL_of_findInL hf)
        have hs := cntL_split c (as ++ ks)
        have hks : ¬ks.any (·.id == c) = true := fun hx => by
          have := (rootCnt_pos_iff c ks).mpr hx
          have : rootCnt c ks ≤ rootCnt c (as ++ ks) := by
            rw [rootCnt_eq_count, rootCnt_eq_count, map_append, count_append]; omega
          omega
        rw [parentIn_mk_sub hks, ihS (distinct_sub hnd) hf]; rfl
      · -- `c` is in `r`: it does not occur in the first tree
        have := isSubL_inside c pn r (isSubL_of_findInL hf)
        have := cntL_split c r
        have h0 : insideL c [Node.mk j k d as ks] = 0 := by
          have := cntL_split c [Node.mk j k d as ks]
          rw [cntL_singleton, cnt_mk'] at this; omega
        have h1 := parentInL_none c _ h0
        rw [parentInL_cons, parentInL_nil, Option.or_none] at h1
        rw [h1, ihR (distinct_tail hnd) hf]; rfl

theorem parentIn_of_kid (p c : Nat) : (t pn : Node) → (∀ a, cnt a t ≤ 1) → findIn p t = some pn →
    pn.kids.any (·.id == c) = true → parentIn c t = some p := by
  intro t pn hnd hf hk
  have := parentInL_of_kid p c [t] pn (by simpa only [cntL_singleton] using hnd) (by rwa [findInL_singleton]) hk
  rwa [parentInL_cons, parentInL_nil, Option.or_none] at this

/-- PARENT ⇒ CHILD: the parent reported for `c` is a node of the forest whose child list holds `c` -/
theorem kid_of_parentInL (p c : Nat) (l : List Node) (hnd : ∀ a, cntL a l ≤ 1) (hp : parentInL c l = some p) :
    ∃ pn, findInL p l = some pn ∧ pn.kids.any (·.id == c) = true := by
  induction l using forest_induct with
  | nil => rw [parentInL_nil] at hp; cases hp
  | cons j k d as ks r _ _ ihS ihR =>
    have hpp := hnd p
    rw [cntL_cons] at hpp
    rw [parentInL_cons] at hp
    rw [findInL_cons]
    by_cases hk : ks.any (·.id == c) = true
    · rw [parentIn_mk_kid hk, Option.some_or, Option.some.injEq] at hp; subst hp
      exact ⟨.mk j k d as ks, by rw [findIn_mk_self]; rfl, hk⟩
    · rw [parentIn_mk_sub hk, Option.or_eq_some_iff] at hp
      rcases hp with hp | ⟨_, hp⟩
      · obtain ⟨pn, hf, hkid⟩ := ihS (distinct_sub hnd) hp
        have := findInL_some_mem hf
        have hj : j ≠ p := fun e => by subst e; rw [cnt_mk_self] at hpp; omega
        exact ⟨pn, by rw [findIn_mk_ne hj, hf]; rfl, hkid⟩
      · obtain ⟨pn, hf, hkid⟩ := ihR (distinct_tail hnd) hp
        have := findInL_some_mem hf
        exact ⟨pn, by rw [findIn_none p _ (by omega), hf]; rfl, hkid⟩

theorem kid_of_parentIn (p c : Nat) : (t : Node) → (∀ a, cnt a t ≤ 1) → parentIn c t = some p →
    ∃ pn, findIn p t = some pn ∧ pn.kids.any (·.id == c) = true := by
  intro t hnd hp
  simpa only [findInL_singleton] using kid_of_parentInL p c [t] (by simpa only [cntL_singleton] using hnd)
    (by rwa [parentInL_cons, parentInL_nil, Option.or_none])

theorem root_no_parent (l : List Node) (hnd : ∀ a, cntL a l ≤ 1) (r : Node) (h : r ∈ l) : parentInL r.id l = none := by
  apply parentInL_none
  have := rootCnt_pos_of_mem r l h
  have := cntL_split r.id l
  have := hnd r.id
  omega

/-- no node beneath itself: below a node of the forest its own id does not occur -/
theorem not_below_itself (l : List Node) (hnd : ∀ a, cntL a l ≤ 1) (p : Nat) (pn : Node) (h : findInL p l = some pn) :
    below p pn = 0 := by
  have h1 := findInL_some h
  have h2 := h1.2 p
  have h3 := cnt_eq_below p pn
  have h4 := hnd p
  rw [h1.1, beq_self_eq_true, if_pos rfl] at h3
  omega

end XmlRs.Dom
