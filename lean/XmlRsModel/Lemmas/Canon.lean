import XmlRsModel.Lemmas.RunsDoc
/-! The compact printer writes the canonical concrete document: `str (canon x) = print x`, `erase (canon x) = x`. -/
namespace XmlRs.Lex
open XmlRs Gen.Xml XmlRs.Names

theorem all_not_contains {s : Str} {p : Char → Bool} {q : Char} (h : s.all p = true) (hq : p q = false) : s.contains q = false := by
  cases hc : s.contains q with
  | false => rfl
  | true => rw [(List.all_eq_true.mp h) q (List.contains_iff_mem.mp hc)] at hq; cases hq

theorem escapeQ_canon (v : Str) : escapeQ v = canonQuote v :: (v ++ [canonQuote v]) := by
  unfold escapeQ canonQuote
  split <;> rfl

theorem piece_no_quote (q : Char) (hq : q = '"' ∨ q = '\'') (pc : Piece) (h : okPiece q pc = true) : (printPiece pc).contains q = false := by
  cases pc with
  | text s =>
    simp only [okPiece, Bool.and_eq_true] at h
    exact all_not_contains h.2 (by simp [P.except])
  | peRef n => cases h
  | entRef n =>
    have hn : n.contains q = false := all_not_contains h (by rcases hq with rfl | rfl <;> decide)
    rcases hq with rfl | rfl <;> simp +decide only [printPiece, List.contains_cons, List.contains_append, hn, Bool.or_false]
  | charRef d hx =>
    simp only [okPiece, Bool.and_eq_true] at h
    have hd : d.contains q = false := by
      cases hx with
      | true => exact all_not_contains (p := P.isHexDigit) h.2 (by rcases hq with rfl | rfl <;> decide)
      | false => exact all_not_contains (p := P.isDigit) h.2 (by rcases hq with rfl | rfl <;> decide)
    rcases hq with rfl | rfl <;> cases hx <;>
      simp +decide only [printPiece, List.contains_cons, List.contains_append, hd, Bool.or_false, if_true, if_false]

theorem pieces_no_quote (q : Char) (hq : q = '"' ∨ q = '\'') : ∀ ps : List Piece, ps.all (okPiece q) = true → (printPieces ps).contains q = false
  | [], _ => rfl
  | pc :: ps, h => by
    simp only [List.all_cons, Bool.and_eq_true] at h
    rw [printPieces, List.flatMap_cons, List.contains_append, piece_no_quote q hq pc h.1]
    exact pieces_no_quote q hq ps h.2

theorem canonAttr_str (a : Attr) (h : okAttr (canonAttr a) = true) : (canonAttr a).str = ' ' :: printAttr a := by
  obtain ⟨_, _, _, _, _, h6, h7, _⟩ := okAttr_parts h
  have hno : (printPieces a.vals).contains (canonQuote (printPieces a.vals)) = false := pieces_no_quote _ h6 a.vals h7
  -- the value does not hold both kinds of quote, so no `&quot;` is written
  have hq : quoteAttr (printPieces a.vals) = escapeQ (printPieces a.vals) := by
    unfold quoteAttr
    cases hd : (printPieces a.vals).contains '"' with
    | false => rfl
    | true => simp only [canonQuote, hd, if_true] at hno; simp only [hno, Bool.and_false, Bool.false_eq_true, if_false]
  simp only [CAttr.str, canonAttr, printAttr, hq, escapeQ_canon, List.cons_append, List.nil_append]

theorem canonAttrs_text : ∀ (as : List Attr), (as.map canonAttr).all okAttr = true →
    attrsText (as.map canonAttr) = as.flatMap (fun a => ' ' :: printAttr a)
  | [], _ => rfl
  | a :: as, h => by
    simp only [List.map_cons, List.all_cons, Bool.and_eq_true] at h
    simp only [List.map_cons, attrsText, canonAttr_str a h.1, canonAttrs_text as h.2, List.flatMap_cons]

theorem cdataOpen_eq : ['<', '!', '[', 'C', 'D', 'A', 'T', 'A', '['] = cdataOpen := rfl

theorem piText_canon (t : Str) (d : Option Str) : piText t (canonPIBody d) = printPI t d := by
  cases d <;> simp only [piText, canonPIBody, printPI, List.cons_append, List.nil_append, List.append_assoc]

theorem commentText_eq (s : Str) : commentText s = ['<', '!', '-', '-'] ++ s ++ ['-', '-', '>'] := by
  simp only [commentText, List.cons_append, List.nil_append]

theorem piData_canon (d : Option Str) (h : piFaithful d = true) : piData (canonPIBody d) = d := by
  have hsp : isWs ' ' = true := by decide
  cases d with
  | none => rfl
  | some x =>
    cases x with
    | nil => simp only [canonPIBody, piData, List.dropWhile, hsp]
    | cons c r =>
      have hc : isWs c = false := by simpa [piFaithful] using h
      simp only [canonPIBody, piData, List.dropWhile, hsp, hc]

mutual
theorem canonItem_str : ∀ i : Item, okItem (canonItem i) = true → (canonItem i).str = printItem i
  | .text s | .charRef d h | .entRef n => fun _ => rfl
  | .cdata s => fun _ => by
    simp only [canonItem, CItem.str, printItem, cdataText, cdataOpen, List.cons_append, List.nil_append]
  | .pi t d => fun _ => by simp only [canonItem, CItem.str, printItem, piText_canon]
  | .comment s => fun _ => by simp only [canonItem, CItem.str, printItem, commentText_eq]
  | .elem n attrs [] => fun hok => by
    obtain ⟨_, has, _⟩ := okElem_parts (by simpa only [canonItem] using hok)
    simp only [canonItem, CItem.str, printItem, canonAttrs_text attrs has, if_true, List.cons_append, List.nil_append, List.append_assoc]
  | .elem n attrs (k :: ks) => fun hok => by
    obtain ⟨_, has, _, _, _, hks, _⟩ := okElem_parts (by simpa only [canonItem] using hok)
    have hk := canonItems_str (k :: ks) (by simpa only [canonItems] using hks)
    simp only [canonItems] at hk
    simp only [canonItem, CItem.str, printItem, canonAttrs_text attrs has, hk, Bool.false_eq_true, if_false, List.cons_append,
      List.nil_append, List.append_assoc]
theorem canonItems_str : ∀ l : List Item, okItems (canonItems l) = true → strL (canonItems l) = printItems l
  | [] => fun _ => rfl
  | i :: r => fun hok => by
    have h := okItems_cons (by simpa only [canonItems] using hok)
    simp only [canonItems, strL, printItems, canonItem_str i h.1, canonItems_str r h.2]
end

theorem erase_canonAttr (a : Attr) : (canonAttr a).erase = a := rfl

theorem canonAttrs_erase (as : List Attr) : (as.map canonAttr).map CAttr.erase = as := by
  rw [List.map_map]
  exact (List.map_congr_left (g := id) fun a _ => erase_canonAttr a).trans (List.map_id as)

mutual
theorem canonItem_erase : ∀ i : Item, faithfulItem i = true → (canonItem i).erase = i
  | .text s | .charRef d h | .entRef n | .cdata s | .comment s => fun _ => rfl
  | .pi t d => fun h => by simp only [canonItem, CItem.erase, piData_canon d h]
  | .elem n attrs [] => fun _ => by simp only [canonItem, CItem.erase, canonAttrs_erase, eraseL]
  | .elem n attrs (k :: ks) => fun h => by
    have hk := canonItems_erase (k :: ks) h
    simp only [canonItems] at hk
    simp only [canonItem, CItem.erase, canonAttrs_erase, hk]
theorem canonItems_erase : ∀ l : List Item, faithfulItems l = true → eraseL (canonItems l) = l
  | [] => fun _ => rfl
  | i :: r => fun h => by
    simp only [faithfulItems, Bool.and_eq_true] at h
    simp only [canonItems, eraseL, canonItem_erase i h.1, canonItems_erase r h.2]
end

theorem canonExt_spec (p s : Option Str) (id : CExtId) (h : canonExt p s = some id) :
    ' ' :: id.str = printExtId p s ∧ id.erase.1 = p ∧ some id.erase.2 = s := by
  rcases s with _ | sv
  · cases p <;> cases h
  · rcases p with _ | pv <;> cases h <;>
      simp only [CExtId.str, printExtId, escapeQ_canon, kwSYSTEM, kwPUBLIC, CExtId.erase, List.cons_append, List.nil_append,
        List.append_assoc, and_self]

theorem sepBy_tokens : ∀ (f : Str) (rest : List Str), sepBy ['|'] (f :: rest) = f ++ tokensText (rest.map fun n => ([], [], n))
  | f, [] => (List.append_nil f).symm
  | f, g :: r => by
    simp only [sepBy, sepBy_tokens g r, List.map_cons, tokensText, sepTextG, List.nil_append, id, List.append_assoc, List.cons_append]

theorem canonTokens_str (ns : List Str) : (canonTokens ns).1 ++ tokensText (canonTokens ns).2 = sepBy ['|'] ns := by
  cases ns with
  | nil => rfl
  | cons f r => exact (sepBy_tokens f r).symm

theorem canonAttType_str (t : AttType) : (canonAttType t).str = printAttType t := by
  cases t with
  | «notation» ns =>
    simp only [canonAttType, CAttType.str, printAttType, ← canonTokens_str ns, kwNOTATIONty, List.cons_append, List.nil_append, List.append_assoc]
  | enumeration ts =>
    simp only [canonAttType, CAttType.str, printAttType, ← canonTokens_str ts, List.cons_append, List.nil_append, List.append_assoc]
  | _ => rfl

theorem canonTokens_erase (ns : List Str) (h : okNameTok (canonTokens ns).1 = true) : (canonTokens ns).1 :: (canonTokens ns).2.map (·.2.2) = ns := by
  cases ns with
  | nil => cases h
  | cons f r => simp only [canonTokens, List.map_map, Function.comp_def, List.map_id']

theorem canonAttType_erase (t : AttType) (h : okAttType (canonAttType t) = true) : (canonAttType t).erase = t := by
  cases t with
  | «notation» ns | enumeration ns =>
    simp only [canonAttType, okAttType, Bool.and_eq_true] at h
    -- in both shapes the first token's check is the second conjunct from the left
    obtain ⟨⟨⟨_, hfirst⟩, _⟩, _⟩ := h
    simp only [canonAttType, CAttType.erase, canonTokens_erase ns hfirst]
  | _ => rfl

theorem canonDefault_str (d : AttDefault) : (canonDefault d).str = printDefault d := by
  cases d with
  | value f vs =>
    cases f <;> simp only [canonDefault, CDefault.str, printDefault, escapeQ_canon, kwFIXED, Bool.false_eq_true, if_true, if_false,
      List.cons_append, List.nil_append]
  | _ => rfl

theorem canonDefault_erase (d : AttDefault) : (canonDefault d).erase = d := by
  cases d with
  | value f vs => cases f <;> rfl
  | _ => rfl

theorem canonAttDefs_text (defs : List AttDef) :
    attDefsText (defs.map canonAttDef) = defs.flatMap (fun d => ' ' :: d.name.text ++ ' ' :: printAttType d.ty ++ ' ' :: printDefault d.dflt) := by
  induction defs with
  | nil => rfl
  | cons a r ih =>
    simp only [List.map_cons, attDefsText, ih, List.flatMap_cons, canonAttDef, CAttDef.str, canonAttType_str, canonDefault_str,
      List.cons_append, List.nil_append, List.append_assoc]

theorem canonAttDefs_erase : ∀ (defs : List AttDef), (defs.map canonAttDef).all okAttDef = true → (defs.map canonAttDef).map CAttDef.erase = defs
  | [], _ => rfl
  | a :: r, h => by
    simp only [List.map_cons, List.all_cons, Bool.and_eq_true] at h
    obtain ⟨_, _, _, hty, _⟩ := okAttDef_parts h.1
    simp only [List.map_cons, canonAttDefs_erase r h.2, canonAttDef, CAttDef.erase, canonAttType_erase a.ty hty, canonDefault_erase]

theorem canonDtdItem_spec (i : DtdItem) (c : CDtdItem) (h : canonDtdItem i = some c) (hok : okDtdItem c = true) (hf : faithfulDtd i = true) :
    c.str = printDtdItem i ∧ c.erase = some i := by
  cases i with
  | attlist e defs =>
    cases h
    refine ⟨?_, by rw [CDtdItem.erase, canonAttDefs_erase defs (okDtd_attlist hok).2.2.1]⟩
    -- the two texts are the same characters; once bracketed alike, the keyword literals compute
    simp only [CDtdItem.str, printDtdItem, canonAttDefs_text, List.append_assoc]
    rfl
  | entity n d =>
    cases d with
    | internal vs =>
      cases h
      refine ⟨?_, rfl⟩
      simp only [CDtdItem.str, CEntDef.str, printDtdItem, escapeQ_canon, List.append_assoc]
      rfl
    | external p s nd =>
      simp only [canonDtdItem, Option.map_eq_some_iff] at h
      obtain ⟨id, hid, rfl⟩ := h
      obtain ⟨h1, h2, h3⟩ := canonExt_spec p (some s) id hid
      cases h3
      constructor
      · simp only [CDtdItem.str, CEntDef.str, printDtdItem, ← h1, List.append_assoc]
        cases nd <;> rfl
      · rw [CDtdItem.erase, CEntDef.erase, h2]
        cases nd <;> rfl
  | «notation» n p s =>
    -- a public identifier alone is written as it is; every other form goes through `canonExt`
    have ext : ∀ id, canonExt p s = some id → (CDtdItem.notationDecl [' '] n [' '] (.ext id) []).str = printDtdItem (.notation n p s) ∧
        (CDtdItem.notationDecl [' '] n [' '] (.ext id) []).erase = some (.notation n p s) := fun id hid => by
      obtain ⟨h1, h2, h3⟩ := canonExt_spec p s id hid
      refine ⟨?_, by rw [CDtdItem.erase, h2, h3]⟩
      simp only [CDtdItem.str, CNotId.str, printDtdItem, ← h1, List.append_assoc]
      rfl
    rcases p with _ | pv
    · simp only [canonDtdItem, Option.map_eq_some_iff] at h
      obtain ⟨id, hid, rfl⟩ := h
      exact ext id hid
    · rcases s with _ | sv
      · cases h
        refine ⟨?_, rfl⟩
        simp only [CDtdItem.str, CNotId.str, printDtdItem, printExtId, escapeQ_canon, List.append_assoc]
        rfl
      · simp only [canonDtdItem, Option.map_eq_some_iff] at h
        obtain ⟨id, hid, rfl⟩ := h
        exact ext id hid
  | pi t d =>
    cases h
    exact ⟨piText_canon t d, by rw [CDtdItem.erase, piData_canon d hf]⟩

theorem canonDtdItems_spec : ∀ (items : List DtdItem) (cs : List CDtdItem), canonDtdItems items = some cs → cs.all okDtdItem = true →
    items.all faithfulDtd = true → dtdText cs = items.flatMap printDtdItem ∧ cs.filterMap CDtdItem.erase = items ∧ (cs = [] ↔ items = [])
  | [], cs, h, _, _ => by cases h; exact ⟨rfl, rfl, fun _ => rfl, fun _ => rfl⟩
  | i :: r, cs, h, hok, hf => by
    simp only [canonDtdItems] at h
    split at h
    · next c cs' h1 h2 =>
      cases h
      simp only [List.all_cons, Bool.and_eq_true] at hok hf
      obtain ⟨a1, a2⟩ := canonDtdItem_spec i c h1 hok.1 hf.1
      obtain ⟨b1, b2, _⟩ := canonDtdItems_spec r cs' h2 hok.2 hf.2
      simp only [dtdText, a1, b1, List.flatMap_cons, List.filterMap_cons, a2, b2, reduceCtorEq, and_self]
    · cases h

theorem canonDoctype_spec (d : Doctype) (cd : CDoctype) (h : canonDoctype d = some cd) (hok : okDoctype cd = true)
    (hf : d.kids.all faithfulDtd = true) : cd.str = printDoctype d ∧ cd.erase = d := by
  have hsub := (okDoctype_parts hok).2.2.2.2
  obtain ⟨name, pub, sys, kids⟩ := d
  unfold canonDoctype at h
  split at h
  · next ext items hext hitems =>
    cases h
    have hE : extText ext = printExtId pub sys ∧ extErasePub ext = pub ∧ extEraseSys ext = sys := by
      rcases pub with _ | p <;> rcases sys with _ | s
      · cases hext; exact ⟨rfl, rfl, rfl⟩
      all_goals
        simp only [canonDoctypeExt, Option.map_eq_some_iff] at hext
        obtain ⟨id, hid, rfl⟩ := hext
        exact canonExt_spec _ _ id hid
    -- the internal subset, written only if it holds something
    have hS : (∀ X, wsBeforeSubset items ++ (subsetText (subsetOf items) ++ X) =
          (match (generalizing := false) kids with | [] => [] | ks => ' ' :: '[' :: (ks.flatMap printDtdItem ++ [']'])) ++ X) ∧
        subsetErase (subsetOf items) = kids := by
      cases items with
      | nil =>
        have := (canonDtdItems_spec kids [] hitems rfl hf).2.2.mp rfl
        subst this
        exact ⟨fun _ => rfl, rfl⟩
      | cons c cs =>
        obtain ⟨i1, i2, i3⟩ := canonDtdItems_spec kids (c :: cs) hitems (hsub (c :: cs) [] rfl).1 hf
        cases kids with
        | nil => cases i3.mpr rfl
        | cons k ks =>
          simp only [wsBeforeSubset, subsetOf, subsetText, subsetErase, i1, i2, List.cons_append, List.nil_append, List.append_assoc,
            implies_true, and_self]
    simp only [CDoctype.str, CDoctype.erase, printDoctype, kwDOCTYPE, hE.1, hE.2.1, hE.2.2, hS.1, hS.2, List.cons_append,
      List.nil_append, List.append_assoc, and_true]
    rfl
  · cases h

theorem miscText_append : ∀ (a b : List CMisc), miscText (a ++ b) = miscText a ++ miscText b
  | [], b => rfl
  | m :: r, b => by simp only [List.cons_append, miscText, miscText_append r b, List.append_assoc]

theorem canonMiscs_spec : ∀ (ts : List TopItem) (ms : List CMisc), canonMiscs ts = some ms → ts.all faithfulTop = true →
    miscText ms = ts.flatMap printTop ∧ ms.filterMap CMisc.erase = ts ∧ ∀ m ∈ ms, isWsMisc m = false
  | [], ms, h, _ => by cases h; exact ⟨rfl, rfl, fun _ hm => nomatch hm⟩
  | .comment s :: r, ms, h, hf => by
    simp only [canonMiscs, Option.map_eq_some_iff] at h
    obtain ⟨ms', h1, rfl⟩ := h
    simp only [List.all_cons, Bool.and_eq_true] at hf
    obtain ⟨i1, i2, i3⟩ := canonMiscs_spec r ms' h1 hf.2
    simp only [miscText, CMisc.str, commentText_eq, printTop, i1, List.flatMap_cons, List.filterMap_cons, CMisc.erase, i2,
      List.mem_cons, forall_eq_or_imp, isWsMisc, true_and]
    exact i3
  | .pi t d :: r, ms, h, hf => by
    simp only [canonMiscs, Option.map_eq_some_iff] at h
    obtain ⟨ms', h1, rfl⟩ := h
    simp only [List.all_cons, Bool.and_eq_true] at hf
    obtain ⟨i1, i2, i3⟩ := canonMiscs_spec r ms' h1 hf.2
    simp only [miscText, CMisc.str, piText_canon, printTop, i1, List.flatMap_cons, List.filterMap_cons, CMisc.erase, i2,
      piData_canon d hf.1, List.mem_cons, forall_eq_or_imp, isWsMisc, true_and]
    exact i3
  | .doctype _ :: r, ms, h, _ => by cases h
  | .elem _ :: r, ms, h, _ => by cases h

theorem canonTop_topD : ∀ (ts : List TopItem) (x : List CMisc × CItem × List CMisc), canonTop ts = some x →
    canonTopD ts = some (x.1, none, x.2.1, x.2.2)
  | [], _, h => by cases h
  | .doctype _ :: r, _, h => by cases h
  | .elem e0 :: r, x, h => by
    simp only [canonTop, Option.map_eq_some_iff] at h
    obtain ⟨y, hr, rfl⟩ := h
    rw [canonTopD, hr]
    rfl
  | .comment s :: r, x, h | .pi t d :: r, x, h => by
    simp only [canonTop, Option.map_eq_some_iff] at h
    obtain ⟨y, hr, rfl⟩ := h
    rw [canonTopD, canonTop_topD r y hr]
    rfl

theorem canonTopD_spec : ∀ (ts : List TopItem) (b : List CMisc) (dt : Option (CDoctype × List CMisc)) (e : CItem) (a : List CMisc),
    canonTopD ts = some (b, dt, e, a) → ts.all faithfulTop = true → okItem e = true →
    (∀ cd ms, dt = some (cd, ms) → okDoctype cd = true) →
    miscText b ++ (doctypeText dt ++ (e.str ++ miscText a)) = ts.flatMap printTop ∧
    b.filterMap CMisc.erase ++ (doctypeErase dt ++ TopItem.elem e.erase :: a.filterMap CMisc.erase) = ts ∧
    ∀ m ∈ a, isWsMisc m = false
  | [], b, dt, e, a, h, _, _, _ => by cases h
  | .elem e0 :: r, b, dt, e, a, h, hf, hok, _ => by
    simp only [canonTopD, Option.map_eq_some_iff, Prod.mk.injEq] at h
    obtain ⟨a', h1, rfl, rfl, rfl, rfl⟩ := h
    simp only [List.all_cons, Bool.and_eq_true] at hf
    obtain ⟨i1, i2, i3⟩ := canonMiscs_spec r a' h1 hf.2
    simp only [miscText, doctypeText, doctypeErase, printTop, canonItem_str e0 hok, i1, List.flatMap_cons, List.filterMap_nil,
      canonItem_erase e0 hf.1, i2, List.nil_append, true_and]
    exact i3
  | .comment s :: r, b, dt, e, a, h, hf, hok, hdt => by
    simp only [canonTopD, Option.map_eq_some_iff, Prod.mk.injEq] at h
    obtain ⟨⟨b', dt', e', a'⟩, h1, rfl, rfl, rfl, rfl⟩ := h
    simp only [List.all_cons, Bool.and_eq_true] at hf
    obtain ⟨i1, i2, i3⟩ := canonTopD_spec r b' dt' e' a' h1 hf.2 hok hdt
    simp only [miscText, CMisc.str, commentText_eq, printTop, ← i1, List.flatMap_cons, List.filterMap_cons, CMisc.erase, List.cons_append,
      List.nil_append, i2, List.append_assoc, true_and]
    exact i3
  | .pi t d :: r, b, dt, e, a, h, hf, hok, hdt => by
    simp only [canonTopD, Option.map_eq_some_iff, Prod.mk.injEq] at h
    obtain ⟨⟨b', dt', e', a'⟩, h1, rfl, rfl, rfl, rfl⟩ := h
    simp only [List.all_cons, Bool.and_eq_true] at hf
    obtain ⟨i1, i2, i3⟩ := canonTopD_spec r b' dt' e' a' h1 hf.2 hok hdt
    simp only [miscText, CMisc.str, piText_canon, printTop, ← i1, List.flatMap_cons, List.filterMap_cons, CMisc.erase,
      piData_canon d hf.1, List.cons_append, i2, List.append_assoc, true_and]
    exact i3
  | .doctype d :: r, b, dt, e, a, h, hf, hok, hdt => by
    simp only [canonTopD] at h
    split at h
    · next cd b2 e2 a2 h1 h2 =>
      cases h
      simp only [List.all_cons, Bool.and_eq_true] at hf
      obtain ⟨i1, i2, i3⟩ := canonTopD_spec r b2 none e a (canonTop_topD r _ h2) hf.2 hok (fun _ _ h => nomatch h)
      obtain ⟨j1, j2⟩ := canonDoctype_spec d cd h1 (hdt cd b2 rfl) hf.1
      simp only [doctypeText, doctypeErase, List.nil_append] at i1 i2
      simp only [miscText, doctypeText, doctypeErase, printTop, j1, j2, ← i1, i2, List.flatMap_cons, List.filterMap_nil, List.nil_append,
        List.cons_append, List.append_assoc, true_and]
      exact i3
    · cases h

theorem encText_some_append (w e1 e2 : Str) (q : Char) (name X : Str) :
    encText (some (w, e1, e2, q, name)) ++ X = w ++ (kwEncoding ++ (e1 ++ ('=' :: (e2 ++ (q :: (name ++ (q :: X))))))) := by
  simp only [encText, List.append_assoc, List.cons_append, List.nil_append]

theorem sdText_some_append (w e1 e2 : Str) (q : Char) (b : Bool) (X : Str) :
    sdText (some (w, e1, e2, q, b)) ++ X = w ++ (kwStandalone ++ (e1 ++ ('=' :: (e2 ++ (q :: (yesNo b ++ (q :: X))))))) := by
  simp only [sdText, List.append_assoc, List.cons_append, List.nil_append]

theorem canonDecl_spec (d : IDoc) (decl : Option CDecl) (h : canonDecl d = some decl) (hok : ∀ x, decl = some x → okDecl x = true) :
    printDoc d = declText decl ++ d.kids.flatMap printTop ∧ decl.map (fun x => '1' :: '.' :: x.minor) = d.version ∧
    decl.bind (fun x => x.enc.map (fun e => e.2.2.2.2)) = d.encoding ∧ decl.bind (fun x => x.sd.map (fun e => e.2.2.2.2)) = d.standalone := by
  obtain ⟨v, en, sd, ks⟩ := d
  unfold canonDecl at h
  split at h
  · next hv =>
    simp only at hv; subst hv
    split at h
    · cases h
    · next hn =>
      cases h
      simp only [Bool.or_eq_true, not_or, Bool.not_eq_true, Option.isSome_eq_false_iff, Option.isNone_iff_eq_none] at hn
      obtain ⟨rfl, rfl⟩ := hn
      exact ⟨rfl, rfl, rfl, rfl⟩
  · next minor hv =>
    simp only at hv; subst hv
    cases h
    -- an encoding that is written is not empty
    have hen : ∀ name, en = some name → name.isEmpty = false := fun name hn => by
      -- of `okDecl_parts`, the conjunct about `enc`, and of that the last one
      have : okEncName name = true := ((okDecl_parts (hok _ rfl)).2.2.2.2.2.2.2.1 [' '] [] [] '"' name (by rw [hn]; rfl)).2.2.2.2.2
      cases name with
      | nil => cases this
      | cons c r => rfl
    refine ⟨?_, rfl, by cases en <;> rfl, by cases sd <;> rfl⟩
    unfold printDoc
    congr 1
    -- both sides are the same characters; only the brackets differ
    rcases en with _ | name <;> rcases sd with _ | b <;>
      simp only [declText, CDecl.str, show encText none = [] from rfl, show sdText none = [] from rfl, List.nil_append,
        encText_some_append, sdText_some_append, Option.map, hen, Bool.false_eq_true, if_false, List.append_assoc] <;> rfl
  · cases h

/-- the compact printer writes the canonical concrete document, and that document renders `d`; nothing but comments and PIs follows
    the document element -/
theorem canonDoc_spec (d : IDoc) (cd : CDoc) (hc : canonDoc d = some cd) (hf : d.kids.all faithfulTop = true)
    (hok : cd.ok = true) : printDoc d = cd.str ∧ cd.erase = d ∧ ∀ m ∈ cd.after, isWsMisc m = false := by
  unfold canonDoc at hc
  split at hc
  · cases hc
  · next decl hdecl =>
    simp only [Option.map_eq_some_iff] at hc
    obtain ⟨⟨b, dt, e, a⟩, h1, rfl⟩ := hc
    obtain ⟨hd1, _, _, _, h5, _, _⟩ := okDoc_parts hok
    obtain ⟨i1, i2, i3⟩ := canonTopD_spec d.kids b dt e a h1 hf h5 fun cd ms he => (okDoc_doctype hok cd ms he).1
    obtain ⟨j1, j2, j3, j4⟩ := canonDecl_spec d decl hdecl hd1
    exact ⟨by rw [j1, ← i1]; rfl, by simp only [CDoc.erase, j2, j3, j4, List.cons_append, List.nil_append, i2], i3⟩

end XmlRs.Lex
