import XmlRsModel.Concrete
import XmlRsModel.Lemmas.Runs
import XmlRsModel.Lemmas.Names
import XmlRsModel.Thm.C18
/-! Completeness of the lexical productions of the generated XML grammar, in the fuel-free reading `Runs`: the text of a
    well-formed piece of concrete syntax, followed by anything that cannot continue it, is parsed to exactly this tree and
    leaves exactly that rest.  A production is never unfolded: `Runs.nt_of env_x h` checks `h` against `Prod.x` up to
    definitional equality, which also identifies the `Char.ofNat 60` of the generated grammar with `'<'`. -/
namespace XmlRs.Lex
open XmlRs Gen.Xml XmlRs.Names

def Starts (p : Char → Bool) (s : Str) : Prop := ∃ c t, s = c :: t ∧ p c = true

theorem Starts.cons {p : Char → Bool} {c : Char} (t : Str) (h : p c = true) : Starts p (c :: t) := ⟨c, t, rfl, h⟩

theorem Starts.append {p : Char → Bool} {s : Str} (h : Starts p s) (r : Str) : Starts p (s ++ r) := by
  obtain ⟨c, t, rfl, hc⟩ := h
  exact .cons (t ++ r) hc

theorem Starts.mono {p q : Char → Bool} {s : Str} (h : Starts p s) (hpq : ∀ c, p c = true → q c = true) : Starts q s := by
  obtain ⟨c, t, rfl, hc⟩ := h
  exact .cons t (hpq c hc)

theorem Starts.stops {p q : Char → Bool} {s : Str} (h : Starts p s) (hpq : ∀ c, p c = true → q c = false) : Stops q s := by
  obtain ⟨c, t, rfl, hc⟩ := h
  exact .cons t (hpq c hc)

theorem Stops.of_head {p q : Char → Bool} (hpq : ∀ c, p c = true → q c = false) {s : Str} (hs : Starts p s) (Y : Str) :
    Stops q (s ++ Y) :=
  (hs.append Y).stops hpq

theorem beq_false_of_class {p : Char → Bool} {c x : Char} {b : Bool} (hc : p c = b) (hx : p x = !b) : (c == x) = false :=
  beq_false_of_ne fun e => by subst e; rw [hc] at hx; cases b <;> cases hx

theorem stops_not_char {p : Char → Bool} {Z : Str} (h : Stops p Z) {x : Char} (hx : p x = true) : Stops (· == x) Z :=
  h.mono fun _ hc => beq_false_of_class hc hx

theorem Starts.stops_eq {p : Char → Bool} {s : Str} (h : Starts p s) {x : Char} (hx : p x = false) : Stops (· == x) s :=
  h.stops fun _ hc => beq_false_of_class hc hx

theorem Starts.stops_space {p : Char → Bool} {s : Str} (h : Starts p s) (hp : ∀ c, P.isSpace c = true → p c = false) :
    Stops P.isSpace s :=
  h.stops fun c hc => by
    cases e : P.isSpace c with
    | false => rfl
    | true => rw [hp c e] at hc; cases hc

section
variable {env : Env}

theorem runs_cls0 {p : Char → Bool} {s r : Str} (hs : s.all p = true) (hr : Stops p r) :
    Runs env (.cls0 p) (s ++ r) (.ok (.leaf s) r) := by
  have := Runs.cls0 (env := env) p (s ++ r)
  rwa [spanP_of_all p s r hs hr] at this

theorem runs_cls1 {p : Char → Bool} {s r : Str} (hne : s ≠ []) (hs : s.all p = true) (hr : Stops p r) :
    Runs env (.cls1 p) (s ++ r) (.ok (.leaf s) r) := by
  have := Runs.cls1_ok (env := env) (p := p) (s := s ++ r) (by rw [spanP_of_all p s r hs hr]; exact hne)
  rwa [spanP_of_all p s r hs hr] at this

theorem runs_cls1_fail {p : Char → Bool} {r : Str} (hr : Stops p r) : Runs env (.cls1 p) r .fail :=
  Runs.cls1_fail (by rw [span_nil_of_stops hr])

theorem runs_cls0_span {p : Char → Bool} (s : Str) {r : Str} (hr : Stops p r) :
    Runs env (.cls0 p) (s ++ r) (.ok (.leaf (spanP p s).1) ((spanP p s).2 ++ r)) := by
  have := Runs.cls0 (env := env) p (s ++ r)
  rwa [span_append_stops p hr] at this

theorem runs_cls1_span {p : Char → Bool} {s r : Str} (hne : (spanP p s).1 ≠ []) (hr : Stops p r) :
    Runs env (.cls1 p) (s ++ r) (.ok (.leaf (spanP p s).1) ((spanP p s).2 ++ r)) := by
  have := Runs.cls1_ok (env := env) (p := p) (s := s ++ r) (by rw [span_append_stops p hr]; exact hne)
  rwa [span_append_stops p hr] at this

theorem strip_cons_ne {c d : Char} (t r : Str) (h : c ≠ d) : stripPrefix (c :: t) (d :: r) = none := by
  simp [stripPrefix, h]

theorem strip_nil (c : Char) (t : Str) : stripPrefix (c :: t) [] = none := rfl

theorem strip_of_stops {c : Char} (t : Str) {r : Str} (h : Stops (· == c) r) : stripPrefix (c :: t) r = none := by
  rcases h with rfl | ⟨d, r', rfl, hd⟩
  · rfl
  · exact strip_cons_ne t r' (by intro e; subst e; simp at hd)

theorem runs_tag_fail_head {c : Char} {t : Str} {r : Str} (h : Stops (· == c) r) : Runs env (.tag (c :: t)) r .fail :=
  Runs.tag_fail (strip_of_stops t h)

theorem Starts.tag_fails {p : Char → Bool} {s : Str} (h : Starts p s) {x : Char} (hx : p x = false) (t : Str) :
    Runs env (.tag (x :: t)) s .fail :=
  runs_tag_fail_head (h.stops_eq hx)

def firstLit (ts : List Str) (s : Str) : Option (Str × Str) := ts.findSome? fun t => (stripPrefix t s).map (t, ·)

theorem runs_alt_lits : ∀ (ts : List Str) (s : Str), RunsAlt env (ts.map .tag) s
    (match firstLit ts s with | some (t, r) => .ok (.leaf t) r | none => .fail)
  | [], s => .nil s
  | t :: ts, s => by
    rw [firstLit, List.findSome?_cons]
    cases h : stripPrefix t s with
    | none => exact .skip (Runs.tag_fail h) (runs_alt_lits ts s)
    | some r => rw [stripPrefix_some h]; exact .hit (Runs.tag_ok t r)

theorem nc_space (c : Char) (h : P.isSpace c = true) : P.isNameChar c = false := by
  simp only [P.isSpace, Bool.or_eq_true, beq_iff_eq] at h
  rcases h with ((rfl | rfl) | rfl) | rfl <;> decide

theorem space_not_nameChar (c : Char) (h : P.isNameChar c = true) : P.isSpace c = false :=
  Bool.eq_false_iff.mpr fun hs => by rw [nc_space c hs] at h; cases h

theorem ne_of_space {d : Char} (hd : P.isSpace d = false) (c : Char) (hc : P.isSpace c = true) : (c == d) = false :=
  beq_false_of_class hc hd

theorem Stops.ws {p : Char → Bool} (hp : ∀ c, P.isSpace c = true → p c = false) {w : Str} (hw : okWs w = true) {Y : Str}
    (hY : w = [] → Stops p Y) : Stops p (w ++ Y) := by
  cases w with
  | nil => exact hY rfl
  | cons d ds =>
    simp only [okWs, List.all_cons, Bool.and_eq_true] at hw
    exact .cons _ (hp d hw.1)

theorem okWs1_parts {w : Str} (h : okWs1 w = true) : w ≠ [] ∧ okWs w = true := by
  simpa [okWs1] using h

theorem Stops.ws1 {p : Char → Bool} (hp : ∀ c, P.isSpace c = true → p c = false) {w : Str} (hw : okWs1 w = true) (Y : Str) :
    Stops p (w ++ Y) :=
  .ws hp (okWs1_parts hw).2 fun e => absurd e (okWs1_parts hw).1

theorem runs_ws1 {w Y : Str} (hw : okWs1 w = true) (hY : Stops P.isSpace Y) :
    Runs env (.cls1 P.isSpace) (w ++ Y) (.ok (.leaf w) Y) :=
  runs_cls1 (okWs1_parts hw).1 (okWs1_parts hw).2 hY

/-- `S? c S?`: the shape of `Eq` and of the separators of lists and content models -/
theorem runs_ws_char_ws {c : Char} (hc : P.isSpace c = false) {a b Y : Str} (ha : okWs a = true) (hb : okWs b = true)
    (hY : Stops P.isSpace Y) :
    Runs env (.seq [.cls0 P.isSpace, .tag [c], .cls0 P.isSpace]) (a ++ c :: (b ++ Y)) (.ok (.seq [.leaf a, .leaf [c], .leaf b]) Y) :=
  Runs.seq3 (runs_cls0 ha (.cons _ hc)) (Runs.tag_ok [c] _) (runs_cls0 hb hY)

theorem ws_tag_fails {w : Str} (hw : okWs w = true) {c d : Char} (hd : P.isSpace d = false) (hcd : c ≠ d) {t Y : Str}
    {gs : List G} : Runs env (.seq (.cls0 P.isSpace :: .tag (c :: t) :: gs)) (w ++ d :: Y) .fail :=
  Runs.seq_fail (.fail_tail (runs_cls0 hw (.cons _ hd)) (.fail_head (Runs.tag_fail (strip_cons_ne _ _ hcd))))

/-- `S? t`: how tags and declarations close -/
theorem runs_ws_tag {w : Str} (hw : okWs w = true) (t : Str) {Y : Str} (ht : Stops P.isSpace (t ++ Y)) :
    Runs env (.seq [.cls0 P.isSpace, .tag t]) (w ++ (t ++ Y)) (.ok (.seq [.leaf w, .leaf t]) Y) :=
  Runs.seq2 (runs_cls0 hw ht) (Runs.tag_ok t Y)

/-- `t S`: a keyword and the white space it requires -/
theorem runs_tag_ws1 (t : Str) {w Y : Str} (hw : okWs1 w = true) (hY : Stops P.isSpace Y) :
    Runs env (.seq [.tag t, .cls1 P.isSpace]) (t ++ (w ++ Y)) (.ok (.seq [.leaf t, .leaf w]) Y) :=
  Runs.seq2 (Runs.tag_ok t _) (runs_ws1 hw hY)

theorem runs_ws1_then {w : Str} (hw : okWs1 w = true) {g : G} {s Y : Str} {c : CST} (hs : Stops P.isSpace s)
    (h : Runs env g s (.ok c Y)) : Runs env (.seq [.cls1 P.isSpace, g]) (w ++ s) (.ok (.seq [.leaf w, c]) Y) :=
  Runs.seq2 (runs_ws1 hw hs) h

theorem ws1_then_fails {w : Str} (hw : okWs w = true) {Y : Str} (hY : Stops P.isSpace Y) {g : G} {gs : List G}
    (hg : Runs env g Y .fail) : RunsSeq env (.cls1 P.isSpace :: g :: gs) (w ++ Y) .fail := by
  cases w with
  | nil => exact .fail_head (runs_cls1_fail hY)
  | cons c cs => exact .fail_tail (runs_cls1 (List.cons_ne_nil c cs) hw hY) (.fail_head hg)

theorem isQuote_cases {q : Char} (h : isQuote q = true) : q = '"' ∨ q = '\'' := by
  simpa [isQuote] using h

theorem runs_quoted {q1 q2 q : Char} (hne : q2 ≠ q1) (hq : q = q1 ∨ q = q2) {g1 g2 : G} {s Y : Str} {c : CST}
    (h : Runs env (if q = q1 then g1 else g2) (s ++ q :: Y) (.ok c (q :: Y))) :
    Runs env (.alt [.seq [.tag [q1], g1, .tag [q1]], .seq [.tag [q2], g2, .tag [q2]]]) (q :: (s ++ q :: Y))
      (.ok (.seq [.leaf [q], c, .leaf [q]]) Y) := by
  rcases hq with rfl | rfl
  · rw [if_pos rfl] at h
    exact Runs.alt (.hit (Runs.seq3 (Runs.tag_ok [q] _) h (Runs.tag_ok [q] Y)))
  · rw [if_neg hne] at h
    exact Runs.alt (.skip (Runs.seq_fail_head (Runs.tag_fail (strip_cons_ne _ _ hne.symm)))
      (.hit (Runs.seq3 (Runs.tag_ok [q] _) h (Runs.tag_ok [q] Y))))

/-- the grammar tries the double quote first and reads the body with a production that depends on the quote -/
theorem runs_two_quotes_dq {gD gS : G} {q : Char} (hq : isQuote q = true) {s Y : Str} {c : CST}
    (h : Runs env (if q = '"' then gD else gS) (s ++ q :: Y) (.ok c (q :: Y))) :
    Runs env (.alt [.seq [.tag ['"'], gD, .tag ['"']], .seq [.tag ['\''], gS, .tag ['\'']]]) (q :: (s ++ q :: Y))
      (.ok (.seq [.leaf [q], c, .leaf [q]]) Y) :=
  runs_quoted (by decide) (isQuote_cases hq) h

/-- the grammar tries the single quote first; one body for both -/
theorem runs_two_quotes {g : G} {q : Char} (hq : isQuote q = true) {s Y : Str} {c : CST}
    (h : Runs env g (s ++ q :: Y) (.ok c (q :: Y))) :
    Runs env (.alt [.seq [.tag ['\''], g, .tag ['\'']], .seq [.tag ['"'], g, .tag ['"']]]) (q :: (s ++ q :: Y))
      (.ok (.seq [.leaf [q], c, .leaf [q]]) Y) :=
  runs_quoted (by decide) (isQuote_cases hq).symm (by rwa [ite_self])

end

/-! ### NCName, QName: productions of `nom/src/lib.rs`, the same in the XML and in the XPath grammar -/
abbrev ncStart (c : Char) : Bool := c != ':' && P.isNameStartChar c

structure NameProds (ev : Env) (nc pn qn : Nat) : Prop where
  ncname : ev nc = G.seq [G.one ncStart, G.alt [G.cls1 ncRestC, G.seq []]]
  prefixed : ev pn = G.seq [G.nt nc, G.seq [G.tag [':'], G.nt nc]]
  qname : ev qn = G.alt [G.nt pn, G.nt nc]

def ncTree (nc : Nat) (a : Str) : CST :=
  .node nc (.seq [.leaf (a.take 1), if a.drop 1 = [] then .seq [] else .leaf (a.drop 1)])

def qnTree (nc pn qn : Nat) (q : QN) : CST :=
  match q.pre with
  | none => .node qn (ncTree nc q.loc)
  | some p => .node qn (.node pn (.seq [ncTree nc p, .seq [.leaf [':'], ncTree nc q.loc]]))

theorem nameChar_colon : P.isNameChar ':' = true := by decide

theorem stops_ncRest_of_nameChar {r : Str} (h : Stops P.isNameChar r) : Stops ncRestC r :=
  h.mono fun c hc => by simp [ncRestC, P.except, hc]

theorem ncRest_colon : ncRestC ':' = false := by decide

theorem okNc_starts {a : Str} (h : okNc a = true) : Starts ncStart a := by
  cases a with
  | nil => cases h
  | cons c t => simp only [okNc, Bool.and_eq_true] at h; exact .cons t (by simpa using h.1)

theorem okQN_starts {q : QN} (h : okQN q = true) : Starts ncStart q.text := by
  obtain ⟨pre, loc⟩ := q
  simp only [okQN, Bool.and_eq_true] at h
  cases pre with
  | none => exact okNc_starts h.2
  | some p => exact (okNc_starts h.1).append _

theorem ncStart_nameChar (c : Char) (h : ncStart c = true) : P.isNameChar c = true :=
  C18.nameStart_sub_nameChar c ((Bool.and_eq_true _ _).mp h).2

namespace NameProds
variable {ev : Env} {nc pn qn : Nat} (h : NameProds ev nc pn qn)
include h

theorem runs_ncname {a r : Str} (ha : okNc a = true) (hr : Stops ncRestC r) : Runs ev (.nt nc) (a ++ r) (.ok (ncTree nc a) r) := by
  cases a with
  | nil => cases ha
  | cons c cs =>
    obtain ⟨hc, hcs⟩ : ncStart c = true ∧ cs.all ncRestC = true := (Bool.and_eq_true _ _).mp ha
    simp only [ncTree, List.take_succ_cons, List.take_zero, List.drop_succ_cons, List.drop_zero, List.cons_append]
    refine Runs.nt_of h.ncname (Runs.seq2 (Runs.one_ok _ hc) ?_)
    by_cases hne : cs = []
    · subst hne
      exact Runs.opt_none (runs_cls1_fail hr)
    · simp only [hne, if_false]
      exact Runs.opt_some (runs_cls1 hne hcs hr)

theorem runs_ncname_fail {r : Str} (hr : Stops ncStart r) : Runs ev (.nt nc) r .fail := by
  refine Runs.nt_fail_of h.ncname (Runs.seq_fail_head ?_)
  rcases hr with rfl | ⟨c, r', rfl, hc⟩
  · exact Runs.one_nil
  · exact Runs.one_fail _ hc

theorem runs_qname_local {loc r : Str} (hl : okNc loc = true) (hr : Stops ncRestC r)
    (hno : Runs ev (G.seq [G.tag [':'], G.nt nc]) r .fail) : Runs ev (.nt qn) (loc ++ r) (.ok (qnTree nc pn qn ⟨none, loc⟩) r) := by
  have hnc := h.runs_ncname hl hr
  exact Runs.nt_of h.qname (Runs.alt (.skip (Runs.nt_fail_of h.prefixed (Runs.seq_fail (.fail_tail hnc (.fail_head hno)))) (.hit hnc)))

theorem runs_qname {q : QN} {r : Str} (hq : okQN q = true) (hr : Stops P.isNameChar r) :
    Runs ev (.nt qn) (q.text ++ r) (.ok (qnTree nc pn qn q) r) := by
  obtain ⟨pre, loc⟩ := q
  simp only [okQN, Bool.and_eq_true] at hq
  cases pre with
  | none => exact h.runs_qname_local hq.2 (stops_ncRest_of_nameChar hr) (Runs.seq_fail_head (runs_tag_fail_head (stops_not_char hr nameChar_colon)))
  | some p =>
    simp only [QN.text, List.append_assoc, List.cons_append]
    exact Runs.nt_of h.qname (Runs.alt (.hit (Runs.nt_of h.prefixed (Runs.seq2 (h.runs_ncname hq.1 (.cons _ ncRest_colon))
      (Runs.seq2 (Runs.tag_ok [':'] _) (h.runs_ncname hq.2 (stops_ncRest_of_nameChar hr)))))))

theorem runs_qname_fail {r : Str} (hr : Stops ncStart r) : Runs ev (.nt qn) r .fail :=
  Runs.nt_fail_of h.qname (Runs.alt (.skip (Runs.nt_fail_of h.prefixed (Runs.seq_fail_head (h.runs_ncname_fail hr)))
    (.skip (h.runs_ncname_fail hr) (.nil _))))

end NameProds

theorem names : NameProds env N.ncname N.prefixed_name N.qname := ⟨rfl, rfl, rfl⟩

def cstNc (a : Str) : CST :=
  .node N.ncname (.seq [.leaf (a.take 1), if a.drop 1 = [] then .seq [] else .leaf (a.drop 1)])

theorem runs_ncname {a r : Str} (ha : okNc a = true) (hr : Stops ncRestC r) :
    Runs env (.nt N.ncname) (a ++ r) (.ok (cstNc a) r) :=
  names.runs_ncname ha hr

theorem runs_ncname_fail {r : Str} (hr : Stops (fun c => c != ':' && P.isNameStartChar c) r) :
    Runs env (.nt N.ncname) r .fail :=
  names.runs_ncname_fail hr

def cstQN (q : QN) : CST :=
  match q.pre with
  | none => .node N.qname (cstNc q.loc)
  | some p => .node N.qname (.node N.prefixed_name (.seq [cstNc p, .seq [.leaf [':'], cstNc q.loc]]))

theorem runs_qname {q : QN} {r : Str} (hq : okQN q = true) (hr : Stops P.isNameChar r) :
    Runs env (.nt N.qname) (q.text ++ r) (.ok (cstQN q) r) :=
  names.runs_qname hq hr

theorem runs_qname_fail {r : Str} (hr : Stops (fun c => c != ':' && P.isNameStartChar c) r) :
    Runs env (.nt N.qname) r .fail :=
  names.runs_qname_fail hr

theorem runs_qname_fail_ns {r : Str} (hr : Stops P.isNameStartChar r) : Runs env (.nt N.qname) r .fail :=
  runs_qname_fail (hr.mono fun c hc => by simp [hc])

/-! ### Name as the code reads it (NameStartChar* NameChar*) -/
def cstName (t : Str) : CST :=
  .node N.name (.seq [.node N.multinamestartchar0 (.leaf (spanP P.isNameStartChar t).1),
                      .node N.multinamechar0 (.leaf (spanP P.isNameStartChar t).2)])

theorem runs_name {t r : Str} (ht : t.all P.isNameChar = true) (hr : Stops P.isNameChar r) :
    Runs env (.nt N.name) (t ++ r) (.ok (cstName t) r) :=
  Runs.nt_of env_name (Runs.seq2 (Runs.nt_of env_multinamestartchar0 (runs_cls0_span t (hr.mono C18.nameStart_sub)))
    (Runs.nt_of env_multinamechar0 (runs_cls0 (all_of_all_span _ _ t ht) hr)))

theorem cstName_flatten (t : Str) : (cstName t).flatten = t := by
  simp [cstName, CST.flatten, flattenL, spanP_append]

def cstRef : Piece → CST
  | .entRef n => .node N.reference (.node N.entity_ref (.seq [.leaf ['&'], cstName n, .leaf [';']]))
  | .charRef d false => .node N.reference (.node N.char_ref (.seq [.leaf ['&', '#'], .leaf d, .leaf [';']]))
  | .charRef d true => .node N.reference (.node N.char_ref (.seq [.leaf ['&', '#', 'x'], .leaf d, .leaf [';']]))
  | _ => .leaf []

/-- `c Name ;`: the body of entity and parameter-entity references -/
theorem runs_name_ref (c : Char) {n : Str} (hn : n.all P.isNameChar = true) (r : Str) :
    Runs env (.seq [.tag [c], .nt N.name, .tag [';']]) (c :: (n ++ ';' :: r)) (.ok (.seq [.leaf [c], cstName n, .leaf [';']]) r) :=
  Runs.seq3 (Runs.tag_ok [c] _) (runs_name hn (.cons _ (by decide))) (Runs.tag_ok [';'] r)

theorem runs_reference_ent {n : Str} (hn : n.all P.isNameChar = true) (r : Str) :
    Runs env (.nt N.reference) (printPiece (.entRef n) ++ r) (.ok (cstRef (.entRef n)) r) := by
  simp only [printPiece, List.cons_append, List.append_assoc]
  exact Runs.nt_of env_reference (Runs.alt (.hit (Runs.nt_of env_entity_ref (runs_name_ref '&' hn r))))

/-- `entity_ref` reads an empty name in front of `#` and then misses the `;` -/
theorem entity_ref_fails_on_hash (r : Str) : Runs env (.nt N.entity_ref) ('&' :: '#' :: r) .fail :=
  Runs.nt_fail_of env_entity_ref (Runs.seq_fail (.fail_tail (Runs.tag_ok ['&'] _)
    (.fail_tail (runs_name (t := []) rfl (.cons r (by decide))) (.fail_head (Runs.tag_fail (strip_cons_ne _ _ (by decide)))))))

theorem runs_reference_char {d : Str} {h : Bool} (hne : d ≠ []) (hd : d.all (if h then P.isHexDigit else P.isDigit) = true) (r : Str) :
    Runs env (.nt N.reference) (printPiece (.charRef d h) ++ r) (.ok (cstRef (.charRef d h)) r) := by
  have wrap : ∀ {t : Str} {c : CST}, Runs env (.nt N.char_ref) ('&' :: '#' :: t) (.ok c r) →
      Runs env (.nt N.reference) ('&' :: '#' :: t) (.ok (.node N.reference c) r) :=
    fun h => Runs.nt_of env_reference (Runs.alt (.skip (entity_ref_fails_on_hash _) (.hit h)))
  cases h with
  | false =>
    simp only [printPiece, List.append_assoc, Bool.false_eq_true, if_false]
    exact wrap (Runs.nt_of env_char_ref (Runs.alt (.hit (Runs.seq3 (Runs.tag_ok ['&', '#'] _) (runs_cls1 hne hd (.cons _ (by decide))) (Runs.tag_ok [';'] r)))))
  | true =>
    simp only [printPiece, List.append_assoc, if_true]
    -- the decimal alternative reads `&#` and finds no digit in `x`
    exact wrap (Runs.nt_of env_char_ref (Runs.alt
      (.skip (Runs.seq_fail (.fail_tail (Runs.tag_ok ['&', '#'] _) (.fail_head (runs_cls1_fail (.cons _ (by decide))))))
      (.hit (Runs.seq3 (Runs.tag_ok ['&', '#', 'x'] _) (runs_cls1 hne hd (.cons _ (by decide))) (Runs.tag_ok [';'] r))))))

theorem runs_reference_fail {r : Str} (hr : Stops (· == '&') r) : Runs env (.nt N.reference) r .fail :=
  Runs.nt_fail_of env_reference (Runs.alt
    (.skip (Runs.nt_fail_of env_entity_ref (Runs.seq_fail_head (runs_tag_fail_head hr)))
    (.skip (Runs.nt_fail_of env_char_ref (Runs.alt (.skip (Runs.seq_fail_head (runs_tag_fail_head hr))
      (.skip (Runs.seq_fail_head (runs_tag_fail_head hr)) (.nil _))))) (.nil _))))

theorem okPiece_text {q : Char} {s : Str} (h : okPiece q (.text s) = true) : s ≠ [] ∧ s.all (P.except P.isChar ['<', '&', q]) = true := by
  simpa [okPiece] using h

theorem okPiece_charRef {q : Char} {d : Str} {h : Bool} (hok : okPiece q (.charRef d h) = true) :
    d ≠ [] ∧ d.all (if h then P.isHexDigit else P.isDigit) = true := by
  simpa [okPiece] using hok

theorem adjText_tail {pc : Piece} {ps : List Piece} (h : adjText (pc :: ps) = false) : adjText ps = false := by
  cases pc with
  | text s =>
    cases ps with
    | nil => rfl
    | cons hd tl => cases hd <;> simp_all [adjText]
  | _ => simpa [adjText] using h

theorem printPieces_cons (pc : Piece) (ps : List Piece) : printPieces (pc :: ps) = printPiece pc ++ printPieces ps := rfl

/-- The loop over the pieces of a quoted value, as far as the closing quote `q`.  `item` reads one piece; `p` is the class of
    its text pieces, and every other piece starts outside of it (`hhead`): so what follows a text piece ends it, be it
    the quote or a reference. -/
theorem runs_piece_loop {item : G} {p : Char → Bool} {ok : Piece → Bool} {cst : Piece → CST} {q : Char} (hq : p q = false) (r : Str)
    (hstop : Runs env item (q :: r) .fail)
    (hhead : ∀ pc, ok pc = true → (∃ s, pc = .text s) ∨ ∃ c t, printPiece pc = c :: t ∧ p c = false)
    (htext : ∀ s, ok (.text s) = true → s ≠ [])
    (hpiece : ∀ pc, ok pc = true → ∀ Y, (∀ s, pc = .text s → Stops p Y) → Runs env item (printPiece pc ++ Y) (.ok (cst pc) Y)) :
    ∀ ps : List Piece, ps.all ok = true → adjText ps = false →
      RunsMany env item (printPieces ps ++ q :: r) (.ok (ps.map cst) (q :: r))
  | [], _, _ => .stop hstop
  | pc :: ps, hall, hadj => by
    simp only [List.all_cons, Bool.and_eq_true] at hall
    rw [printPieces_cons, List.append_assoc]
    refine .step (hpiece pc hall.1 _ ?_) ?_ (runs_piece_loop hq r hstop hhead htext hpiece ps hall.2 (adjText_tail hadj))
    · rintro s rfl
      cases ps with
      | nil => exact .cons _ hq
      | cons pc' ps' =>
        simp only [List.all_cons, Bool.and_eq_true] at hall
        rcases hhead pc' hall.2.1 with ⟨s', rfl⟩ | ⟨c, t, e, hc⟩
        · cases hadj
        · rw [printPieces_cons, e]
          exact .cons _ hc
    · rcases hhead pc hall.1 with ⟨s, rfl⟩ | ⟨c, t, e, _⟩
      · have := List.length_pos_iff.mpr (htext s hall.1)
        simp only [printPiece, List.length_append]
        omega
      · rw [e]
        simp only [List.cons_append, List.length_cons, List.length_append]
        omega

def cstPiece : Piece → CST
  | .text s => .leaf s
  | pc => cstRef pc

def cstAttValue (q : Char) (ps : List Piece) : CST :=
  .node N.att_value (.seq [.leaf [q], .many (ps.map cstPiece), .leaf [q]])

abbrev avChar (q : Char) : Char → Bool := P.except P.isChar ['<', '&', q]

def avItem (q : Char) : G := G.alt [G.cls1 (avChar q), G.nt N.reference]

theorem avChar_amp (q : Char) : avChar q '&' = false := by simp [avChar, P.except]
theorem avChar_q (q : Char) : avChar q q = false := by simp [avChar, P.except]

theorem okPiece_head (q : Char) (pc : Piece) (hok : okPiece q pc = true) :
    (∃ s, pc = .text s) ∨ ∃ c t, printPiece pc = c :: t ∧ avChar q c = false := by
  cases pc with
  | text s => exact .inl ⟨s, rfl⟩
  | charRef d h => cases h <;> exact .inr ⟨'&', _, rfl, avChar_amp q⟩
  | entRef n => exact .inr ⟨'&', _, rfl, avChar_amp q⟩
  | peRef n => simp [okPiece] at hok

theorem runs_av_piece {q : Char} {pc : Piece} (hok : okPiece q pc = true) {Y : Str} (hY : ∀ s, pc = .text s → Stops (avChar q) Y) :
    Runs env (avItem q) (printPiece pc ++ Y) (.ok (cstPiece pc) Y) := by
  cases pc with
  | text s => exact Runs.alt (.hit (runs_cls1 (okPiece_text hok).1 (okPiece_text hok).2 (hY s rfl)))
  | charRef d h =>
    refine Runs.alt (.skip ?_ (.hit (runs_reference_char (okPiece_charRef hok).1 (okPiece_charRef hok).2 Y)))
    cases h <;> exact runs_cls1_fail (.cons _ (avChar_amp q))
  | entRef n => exact Runs.alt (.skip (runs_cls1_fail (.cons _ (avChar_amp q))) (.hit (runs_reference_ent hok Y)))
  | peRef n => simp [okPiece] at hok

theorem runs_att_value (q : Char) (hq : q = '"' ∨ q = '\'') (ps : List Piece) (r : Str)
    (hall : ps.all (okPiece q) = true) (hadj : adjText ps = false) :
    Runs env (.nt N.att_value) (q :: (printPieces ps ++ q :: r)) (.ok (cstAttValue q ps) r) := by
  have hstop : Runs env (avItem q) (q :: r) .fail :=
    Runs.alt (.skip (runs_cls1_fail (.cons _ (avChar_q q)))
      (.skip (runs_reference_fail (.cons _ (by rcases hq with rfl | rfl <;> decide))) (.nil _)))
  have hloop := runs_piece_loop (avChar_q q) r hstop (okPiece_head q) (fun _ h => (okPiece_text h).1) (fun _ h _ => runs_av_piece h)
    ps hall hadj
  refine Runs.nt_of env_att_value (runs_quoted (g1 := .many0 (avItem '"')) (g2 := .many0 (avItem '\'')) (by decide) hq ?_)
  rcases hq with rfl | rfl <;> exact Runs.many hloop

def cstEq (w1 w2 : Str) : CST := .node N.eq (.seq [.leaf w1, .leaf ['='], .leaf w2])

theorem runs_eq {w1 w2 r : Str} (h1 : okWs w1 = true) (h2 : okWs w2 = true) (hr : Stops P.isSpace r) :
    Runs env (.nt N.eq) (w1 ++ ('=' :: (w2 ++ r))) (.ok (cstEq w1 w2) r) :=
  Runs.nt_of env_eq (runs_ws_char_ws (by decide) h1 h2 hr)

end XmlRs.Lex
