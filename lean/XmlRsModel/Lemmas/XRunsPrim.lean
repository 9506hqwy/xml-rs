import XmlRsModel.Lemmas.XRunsTest
/-! The trees of concrete XPath expressions, the productions they are built by (with their loops and separators named),
    and when `function_call` and `primary_expr` fail. -/
namespace XmlRs.XLex
open XmlRs XmlRs.XPath XmlRs.Lex
open Gen.XPath

def cstMinus (ms : List Str) : List CST := ms.map fun w => CST.seq [.leaf ['-'], .leaf w]

mutual
def cstX : CX → CST
  | .chain l f r => .node (levelNt l) (.seq [cstX f, .many (cstTail r)])
  | .unary ms e => .node N.unary_expr (.seq [.many (cstMinus ms), cstX e])
  | .union f r => .node N.union_expr (.seq [cstX f, .many (cstTail r)])
  | .pathF f => .node N.path_expr (.seq [cstX f, .seq []])
  | .pathFR f w1 ds w2 rel => .node N.path_expr (.seq [cstX f, .seq [.seq [.leaf w1, .leaf (slashText ds), .leaf w2], cstRel rel]])
  | .pathAbs ds w rel => .node N.path_expr (.seq [.seq [.leaf (slashText ds), .leaf w], cstRel rel])
  | .pathRel rel => .node N.path_expr (cstRel rel)
  | .pathRoot => .node N.path_expr (.leaf ['/'])
  | .filter p preds => .node N.filter_expr (.seq [cstX p, .many (cstPreds preds)])
  | .var q => .node N.primary_expr (.node N.variable_reference (.seq [.leaf ['$'], cstQN q]))
  | .paren w1 e w2 => .node N.primary_expr (.seq [.seq [.leaf ['('], .leaf w1], .node N.expr (cstX e), .seq [.leaf w2, .leaf [')']]])
  | .lit q s => .node N.primary_expr (cstLit q s)
  | .num s => .node N.primary_expr (cstNum s)
  | .call f w1 w2 args w3 => .node N.primary_expr (.node N.function_call (.seq [.node N.function_name (cstQN f),
      .seq [.seq [.leaf w1, .leaf ['('], .leaf w2], cstArgs args, .seq [.leaf w3, .leaf [')']]]]))
def cstTail : CXTail → List CST
  | .nil => []
  | .cons w1 op w2 e t => .seq [.seq [.leaf w1, .leaf (opText op), .leaf w2], cstX e] :: cstTail t
def cstArgs : CArgs → CST
  | .none => .seq []
  | .some f r => .seq [.node N.argument (.node N.expr (cstX f)), .many (cstArgTail r)]
def cstArgTail : CArgTail → List CST
  | .nil => []
  | .cons w1 w2 e t => .seq [.seq [.leaf w1, .leaf [','], .leaf w2], .node N.argument (.node N.expr (cstX e))] :: cstArgTail t
def cstRel : CRel → CST
  | .mk f r => .node N.relative_location_path (.seq [cstStep f, .many (cstRelTail r)])
def cstRelTail : CRelTail → List CST
  | .nil => []
  | .cons w1 ds w2 s t => .seq [.seq [.leaf w1, .leaf (slashText ds), .leaf w2], cstStep s] :: cstRelTail t
def cstStep : CStep → CST
  | .dot => .node N.step (.leaf ['.'])
  | .dotdot => .node N.step (.leaf ['.', '.'])
  | .full ax w test preds => .node N.step (.seq [cstAxis ax, .seq [.leaf w, cstTest test], .many (cstPreds preds)])
def cstPreds : CPreds → List CST
  | .nil => []
  | .cons w w1 e w2 t => .seq [.leaf w, .node N.predicate (.seq [.seq [.leaf ['['], .leaf w1], .node N.predicate_expr (.node N.expr (cstX e)),
      .seq [.leaf w2, .leaf [']']]])] :: cstPreds t
end

def slashG : G := G.alt [G.tag ['/', '/'], G.tag ['/']]
def argSepG : G := G.seq [G.cls0 P.isSpace, G.tag [','], G.cls0 P.isSpace]
def argIterG : G := G.seq [argSepG, G.nt N.argument]
def argsAltG : G := G.alt [G.seq [G.nt N.argument, G.many0 argIterG], G.seq []]
def relIterG : G := G.seq [G.seq [G.cls0 P.isSpace, slashG, G.cls0 P.isSpace], G.nt N.step]
def predIterG : G := G.seq [G.cls0 P.isSpace, G.nt N.predicate]
def callOpen : G := G.seq [G.cls0 P.isSpace, G.tag ['('], G.cls0 P.isSpace]
def closeG (c : Char) : G := G.seq [G.cls0 P.isSpace, G.tag [c]]

theorem parse_prod : env N.parse = G.nt N.expr := rfl
theorem expr_prod : env N.expr = G.nt N.or_expr := rfl
theorem predicate_expr_prod : env N.predicate_expr = G.nt N.expr := rfl
theorem argument_prod : env N.argument = G.nt N.expr := rfl
theorem unary_prod : env N.unary_expr = G.seq [G.many0 (G.seq [G.tag ['-'], G.cls0 P.isSpace]), G.nt N.union_expr] := rfl
theorem path_prod : env N.path_expr = G.alt [
    G.seq [G.nt N.filter_expr, G.alt [G.seq [G.seq [G.cls0 P.isSpace, slashG, G.cls0 P.isSpace], G.nt N.relative_location_path], G.seq []]],
    G.seq [G.seq [slashG, G.cls0 P.isSpace], G.nt N.relative_location_path],
    G.nt N.relative_location_path, G.tag ['/']] := rfl
theorem rel_prod : env N.relative_location_path = G.seq [G.nt N.step, G.many0 relIterG] := rfl
theorem step_prod : env N.step = G.alt [G.tag ['.', '.'], G.tag ['.'],
    G.seq [G.nt N.axis_specifier, G.seq [G.cls0 P.isSpace, G.nt N.node_test], G.many0 predIterG]] := rfl
theorem predicate_prod : env N.predicate = G.seq [G.seq [G.tag ['['], G.cls0 P.isSpace], G.nt N.predicate_expr, closeG ']'] := rfl
theorem filter_prod : env N.filter_expr = G.seq [G.nt N.primary_expr, G.many0 predIterG] := rfl
theorem primary_prod : env N.primary_expr = G.alt [G.nt N.variable_reference,
    G.seq [G.seq [G.tag ['('], G.cls0 P.isSpace], G.nt N.expr, closeG ')'],
    G.nt N.literal, G.nt N.number, G.nt N.function_call] := rfl
theorem variable_prod : env N.variable_reference = G.seq [G.tag ['$'], G.nt N.qname] := rfl
theorem function_call_prod : env N.function_call = G.seq [G.nt N.function_name, G.seq [callOpen, argsAltG, closeG ')']] := rfl
theorem function_name_prod : env N.function_name = G.verify (G.nt N.qname) (fun c => !(typeNames.contains c.flatten)) := rfl

theorem runs_expr {I Y : Str} {c : CST} (h : Runs env (.nt (ntOfLevel 0)) I (.ok c Y)) : Runs env (.nt N.expr) I (.ok (.node N.expr c) Y) :=
  Runs.nt_of expr_prod h

theorem cstNc_flatten (a : Str) : (cstNc a).flatten = a := by
  have key := List.take_append_drop 1 a
  simp only [cstNc, CST.flatten, flattenL]
  split
  · next h => simp only [CST.flatten, flattenL, List.append_nil]; rw [h, List.append_nil] at key; exact key
  · simp only [CST.flatten, List.append_nil]; exact key

theorem cstQN_flatten (q : QN) : (cstQN q).flatten = q.text := by
  obtain ⟨pre, loc⟩ := q
  cases pre with
  | none => simp [cstQN, CST.flatten, QN.text, cstNc_flatten]
  | some p => simp [cstQN, CST.flatten, flattenL, QN.text, cstNc_flatten]

theorem contains_typeNames (q : QN) : typeNames.contains q.text = isNodeTypeName q := by
  obtain ⟨pre, loc⟩ := q
  cases pre with
  | none =>
    simp only [typeNames, isNodeTypeName, QN.text, List.contains_cons, List.contains_nil, Bool.or_false, Option.isNone_none, Bool.true_and,
      Bool.or_assoc]
  | some p =>
    -- a prefixed name contains `:`, the node types do not
    simp only [isNodeTypeName, Option.isNone_some, Bool.false_and]
    cases hc : typeNames.contains (QN.mk (some p) loc).text with
    | false => rfl
    | true =>
      have hcol : ((QN.mk (some p) loc).text.contains ':') = true := by simp [QN.text]
      rw [okNc_no_colon (typeNames_okNc _ (List.contains_iff_mem.mp hc))] at hcol
      cases hcol

theorem function_call_fails_noname {I : Str} (h : Stops ncStart I) : Runs env (.nt N.function_call) I .fail :=
  Runs.nt_fail_of function_call_prod (Runs.seq_fail_head (Runs.nt_fail_of function_name_prod (Runs.verify_fail (runs_qname_fail h))))

theorem function_call_fails_after {I : Str} {c : CST} {U : Str} (hq : Runs env (.nt N.qname) I (.ok c U))
    (hU : typeNames.contains c.flatten = true ∨ After (· == '(') U) : Runs env (.nt N.function_call) I .fail := by
  refine Runs.nt_fail_of function_call_prod ?_
  cases hv : typeNames.contains c.flatten with
  | true => exact Runs.seq_fail_head (Runs.nt_fail_of function_name_prod (Runs.verify_reject hq (by rw [hv]; rfl)))
  | false =>
    have hp := hU.resolve_left (by rw [hv]; exact Bool.false_ne_true)
    exact seq_fail_second (Runs.nt_of function_name_prod (Runs.verify_ok hq (by rw [hv]; rfl)))
      (Runs.seq_fail_head (Runs.seq_fail (hp.tag_fails _ _)))

theorem variable_fails {I : Str} (h : Stops (· == '$') I) : Runs env (.nt N.variable_reference) I .fail :=
  Runs.nt_fail_of variable_prod (Runs.seq_fail_head (runs_tag_fail_head h))

theorem primary_alts {p : Char → Bool} {I : Str} (hI : Starts p I) (hp : (p '$' || p '(' || p '"' || p '\'') = false) {out : Res CST}
    (h : RunsAlt env [G.nt N.number, G.nt N.function_call] I out) : Runs env (env N.primary_expr) I out := by
  simp only [Bool.or_eq_false_iff] at hp
  exact Runs.alt (RunsAlt.skip (variable_fails (hI.stops_eq hp.1.1.1))
    (RunsAlt.skip (Runs.seq_fail_head (Runs.seq_fail_head (hI.tag_fails hp.1.1.2 _)))
    (RunsAlt.skip (literal_fails (hI.stops_eq hp.1.2) (hI.stops_eq hp.2)) h)))

theorem primary_fails {p : Char → Bool} {I : Str} (hI : Starts p I) (hp : (p '$' || p '(' || p '"' || p '\'') = false)
    (h4 : Runs env (.nt N.number) I .fail) (h5 : Runs env (.nt N.function_call) I .fail) : Runs env (.nt N.primary_expr) I .fail :=
  Runs.nt_fail (primary_alts hI hp (RunsAlt.skip h4 (RunsAlt.skip h5 (RunsAlt.nil _))))

theorem primary_fails_char {c : Char} (hc : (('$' == c || '(' == c || '"' == c || '\'' == c) || numStart c || ncStart c) = false) (t : Str) :
    Runs env (.nt N.primary_expr) (c :: t) .fail := by
  obtain ⟨h, h6⟩ := Bool.or_eq_false_iff.mp hc
  obtain ⟨h14, h5⟩ := Bool.or_eq_false_iff.mp h
  exact primary_fails (p := (· == c)) (.cons t (beq_self_eq_true c)) h14 (number_fails (Stops.cons _ h5)) (function_call_fails_noname (Stops.cons _ h6))

theorem ncStart_not_numStart (c : Char) (h : ncStart c = true) : numStart c = false := by
  simp only [Bool.and_eq_true] at h
  cases hd : P.isDigit c with
  | true => rw [(digit_class hd).2] at h; exact absurd h.2 Bool.false_ne_true
  | false =>
    cases hdot : c == '.' with
    | false => simp [hd, hdot]
    | true => rw [beq_iff_eq.mp hdot] at h; exact absurd h.2 (by decide)

theorem primary_fails_name {I : Str} (hI : Starts ncStart I) (h5 : Runs env (.nt N.function_call) I .fail) :
    Runs env (.nt N.primary_expr) I .fail :=
  primary_fails hI (by decide) (number_fails (hI.stops ncStart_not_numStart)) h5

theorem filter_fails_of_primary {I : Str} (h : Runs env (.nt N.primary_expr) I .fail) : Runs env (.nt N.filter_expr) I .fail :=
  Runs.nt_fail_of filter_prod (Runs.seq_fail_head h)

end XmlRs.XLex
