import XmlRsModel.Infoset
import XmlRsModel.Lemmas.DomHeight
import XmlRsModel.Lemmas.DomDoc
/-! The abstract document nests its elements no deeper than the syntax tree it was read from nests `element` nodes. -/
namespace XmlRs
open Gen.Xml XmlRs.Dom List

/-- depth contributed by a labelled child -/
def kidDepth (p : Nat × CST) : Nat := if p.1 == N.element then p.2.elemDepth + 1 else p.2.elemDepth

theorem elemDepth_le_kidDepth (p : Nat × CST) : p.2.elemDepth ≤ kidDepth p := by
  unfold kidDepth; split <;> omega

mutual
theorem kidsL_depth : (c : CST) → ∀ p ∈ c.kidsL, kidDepth p ≤ c.elemDepth
  | .leaf _ => by simp [CST.kidsL]
  | .node n b => by
    intro p hp
    simp only [CST.kidsL, List.mem_singleton] at hp; subst hp
    exact Nat.le_refl _
  | .seq ks => by simp only [CST.kidsL, CST.elemDepth]; exact kidsLL_depth ks
  | .many ks => by simp only [CST.kidsL, CST.elemDepth]; exact kidsLL_depth ks
theorem kidsLL_depth : (l : List CST) → ∀ p ∈ kidsLL l, kidDepth p ≤ elemDepthL l
  | [] => by simp [kidsLL]
  | c :: cs => by
    intro p hp
    simp only [kidsLL, List.mem_append] at hp
    simp only [elemDepthL]
    rcases hp with hp | hp
    · have := kidsL_depth c p hp; omega
    · have := kidsLL_depth cs p hp; omega
end

theorem findL_mem (n : Nat) (l : List (Nat × CST)) (b : CST) (h : findL n l = some b) : (n, b) ∈ l := by
  simp only [findL, Option.map_eq_some_iff] at h
  obtain ⟨p, hp, rfl⟩ := h
  have h1 := List.mem_of_find?_eq_some hp
  have h2 : p.1 = n := by simpa using List.find?_some hp
  rwa [← h2]

theorem findL_depth (n : Nat) (c b : CST) (h : findL n c.kidsL = some b) : b.elemDepth ≤ c.elemDepth :=
  Nat.le_trans (elemDepth_le_kidDepth (n, b)) (kidsL_depth c (n, b) (findL_mem n _ b h))

theorem absElement_succ (f : Nat) (c : CST) : absElement (f+1) c =
    (match findL N.empty_entity_tag (elemKids c) with
     | some t => .elem (absTag t).1 (absTag t).2 []
     | none =>
       .elem (match findL N.stag (elemKids c) with | some t => absTag t | none => (⟨none, []⟩, [])).1
             (match findL N.stag (elemKids c) with | some t => absTag t | none => (⟨none, []⟩, [])).2
             (match findL N.content (elemKids c) with | some ct => absContent f ct.kidsL | none => [])) := by
  simp only [absElement]
  cases h1 : findL N.empty_entity_tag (elemKids c) with
  | some t => rfl
  | none =>
    simp only []
    cases h2 : findL N.stag (elemKids c) <;> rfl

theorem elemKids_depth (c : CST) : ∀ p ∈ elemKids c, kidDepth p ≤ c.elemDepth := by
  intro p hp
  unfold elemKids at hp
  split at hp
  · next n b hcl =>
    split at hp
    · have hb := kidsL_depth c (n, b) (by rw [hcl]; exact List.mem_singleton_self _)
      have := kidsL_depth b p hp
      have : b.elemDepth ≤ kidDepth (n, b) := elemDepth_le_kidDepth (n, b)
      omega
    · exact kidsL_depth c p hp
  · exact kidsL_depth c p hp

/-- one step of `absContent`: at most one item is put in front, and only an `element` child makes one that nests -/
theorem absContent_cons_depth (f n : Nat) (b : CST) (rest : List (Nat × CST)) (B : Nat)
    (ht : itemDepthL (absContent f rest) ≤ B) (he : n = N.element → itemDepth (absElement f b) ≤ B) :
    itemDepthL (absContent f ((n, b) :: rest)) ≤ B := by
  have leaf : ∀ x, itemDepth x = 0 → itemDepthL (x :: absContent f rest) ≤ B := fun x hx => by
    rw [itemDepthL, hx]; omega
  simp only [absContent]
  by_cases h1 : (n == N.char_data) = true
  · rw [if_pos h1]
    by_cases h : b.flatten.isEmpty = true
    · rw [if_pos h]; exact ht
    · rw [if_neg h]; exact leaf _ rfl
  rw [if_neg h1]
  by_cases h2 : (n == N.element) = true
  · rw [if_pos h2, itemDepthL]
    have := he (beq_iff_eq.mp h2); omega
  rw [if_neg h2]
  by_cases h3 : (n == N.reference) = true
  · rw [if_pos h3]
    cases absReference b <;> first | exact ht | exact leaf _ rfl
  rw [if_neg h3]
  by_cases h4 : (n == N.cdsect) = true
  · rw [if_pos h4]; exact leaf _ rfl
  rw [if_neg h4]
  by_cases h5 : (n == N.pi) = true
  · rw [if_pos h5]; exact leaf _ rfl
  rw [if_neg h5]
  by_cases h6 : (n == N.comment) = true
  · rw [if_pos h6]; exact leaf _ rfl
  rw [if_neg h6]; exact ht

theorem absContent_depth_of {f : Nat} (hE : ∀ c, itemDepth (absElement f c) ≤ c.elemDepth + 1) (l : List (Nat × CST)) (b : Nat)
    (h : ∀ p ∈ l, kidDepth p ≤ b) : itemDepthL (absContent f l) ≤ b := by
  induction l with
  | nil => simp [absContent, itemDepthL]
  | cons p rest ih =>
    refine absContent_cons_depth f p.1 p.2 rest b (ih fun q hq => h q (List.mem_cons_of_mem _ hq)) fun hn => ?_
    have := h p List.mem_cons_self
    have := hE p.2
    rw [kidDepth, hn, beq_self_eq_true, if_pos rfl] at *
    omega

theorem absElement_depth (f : Nat) : ∀ c : CST, itemDepth (absElement f c) ≤ c.elemDepth + 1 := by
  induction f with
  | zero => intro c; simp [absElement, itemDepth, itemDepthL]
  | succ f ih =>
    intro c
    rw [absElement_succ]
    split
    · simp [itemDepth, itemDepthL]
    · cases hct : findL N.content (elemKids c) with
      | none => simp [itemDepth, itemDepthL]
      | some ct =>
        have := elemKids_depth c _ (findL_mem N.content _ ct hct)
        have : ct.elemDepth ≤ kidDepth (N.content, ct) := elemDepth_le_kidDepth (N.content, ct)
        have := absContent_depth_of ih ct.kidsL ct.elemDepth (kidsL_depth ct)
        simp only [itemDepth]
        omega

theorem absContent_depth : (f : Nat) → (l : List (Nat × CST)) → (b : Nat) → (∀ p ∈ l, kidDepth p ≤ b) →
    itemDepthL (absContent f l) ≤ b :=
  fun f => absContent_depth_of (absElement_depth f)

theorem topsDepth_append (a b : List TopItem) : topsDepth (a ++ b) = max (topsDepth a) (topsDepth b) := by
  induction a with
  | nil => simp [topsDepth]
  | cons t r ih => rw [List.cons_append, topsDepth, topsDepth, ih, Nat.max_assoc]

/-- what stands for a `misc` node is a comment or a processing instruction -/
theorem absMisc_cases {c : CST} {t : TopItem} (h : absMisc c = some t) : (∃ s, t = .comment s) ∨ ∃ tg d, t = .pi tg d := by
  unfold absMisc at h
  split at h
  · split at h
    · cases h; exact .inl ⟨_, rfl⟩
    · split at h
      · cases h; exact .inr ⟨_, _, rfl⟩
      · cases h
  · cases h

theorem absMisc_not_elem {c : CST} {t : TopItem} (h : absMisc c = some t) : isElemTop t = false ∧ isDoctypeTop t = false := by
  rcases absMisc_cases h with ⟨_, rfl⟩ | ⟨_, _, rfl⟩ <;> exact ⟨rfl, rfl⟩

theorem filterMap_absMisc_not_elem (l : List CST) : ∀ t ∈ l.filterMap absMisc, isElemTop t = false ∧ isDoctypeTop t = false := by
  intro t ht
  obtain ⟨c, _, hc⟩ := mem_filterMap.mp ht
  exact absMisc_not_elem hc

/-- one step of `absProlog`: a `misc` node gives what `absMisc` makes of it, a document type declaration a document
    type, anything else nothing -/
theorem absProlog_cons {n : Nat} {b : CST} {rest : List (Nat × CST)} {xs : List TopItem}
    (h : absProlog ((n, b) :: rest) = .ok xs) :
    ∃ ys, absProlog rest = .ok ys ∧
      ((n = N.misc ∧ xs = (absMisc b).toList ++ ys) ∨ ((n == N.doctype_decl) = true ∧ ∃ d, xs = .doctype d :: ys) ∨
       ((n == N.doctype_decl) = false ∧ xs = ys)) := by
  rw [absProlog] at h
  cases hr : absProlog rest with
  | error e => rw [hr] at h; cases h
  | ok ys =>
    rw [hr] at h
    dsimp only at h
    refine ⟨ys, rfl, ?_⟩
    split at h
    · next hm =>
      cases h
      refine .inl ⟨beq_iff_eq.mp hm, ?_⟩
      cases absMisc b <;> rfl
    · split at h
      · next hd =>
        cases hdt : absDoctype b with
        | error e => rw [hdt] at h; cases h
        | ok d => rw [hdt] at h; cases h; exact .inr (.inl ⟨hd, d, rfl⟩)
      · next hd => cases h; exact .inr (.inr ⟨by simpa using hd, rfl⟩)

/-- the prolog contributes comments, processing instructions and document types -/
theorem absProlog_not_elem : ∀ (l : List (Nat × CST)) (xs : List TopItem), absProlog l = .ok xs → ∀ t ∈ xs, isElemTop t = false
  | [], xs, h => by cases h; nofun
  | (n, b) :: rest, xs, h => by
    obtain ⟨ys, hr, hc⟩ := absProlog_cons h
    have ih := absProlog_not_elem rest ys hr
    rcases hc with ⟨_, rfl⟩ | ⟨_, d, rfl⟩ | ⟨_, rfl⟩
    · intro t ht
      rcases mem_append.mp ht with ht | ht
      · exact (absMisc_not_elem (Option.mem_toList.mp ht)).1
      · exact ih t ht
    · exact forall_mem_cons.mpr ⟨rfl, ih⟩
    · exact ih

theorem topsDepth_of_not_elem : ∀ (l : List TopItem), (∀ t ∈ l, isElemTop t = false) → topsDepth l = 0
  | [], _ => rfl
  | t :: r, h => by
    have ht : topDepth t = 0 := by
      cases t with
      | elem e => cases h _ mem_cons_self
      | _ => rfl
    rw [topsDepth, ht, topsDepth_of_not_elem r fun x hx => h x (mem_cons_of_mem _ hx)]; rfl
/-- the abstract document nests its elements no deeper than its syntax tree nests `element` nodes -/
theorem absDocument_depth (c : CST) (d : IDoc) (h : absDocument c = .ok d) : topsDepth d.kids ≤ c.elemDepth := by
  unfold absDocument at h
  simp only at h
  split at h
  · cases h
  · next heads hp =>
    simp only [Except.ok.injEq] at h; subst h
    simp only [topsDepth_append, topsDepth_of_not_elem _ (absProlog_not_elem _ heads hp),
      topsDepth_of_not_elem _ fun t ht => (filterMap_absMisc_not_elem _ t ht).1]
    cases he : findL N.element c.kidsL with
    | none => simp [topsDepth]
    | some e =>
      simp only [topsDepth, topDepth]
      have h1 := absElement_depth (e.size + 1) e
      have h2 := kidsL_depth c (N.element, e) (findL_mem _ _ _ he)
      simp only [kidDepth, beq_self_eq_true, if_true] at h2
      omega

end XmlRs
