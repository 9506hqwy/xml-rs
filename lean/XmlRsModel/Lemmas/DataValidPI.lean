import XmlRsModel.Lemmas.DataValid
import XmlRsModel.Thm.C18
/-! Helper lemmas for the closed forms of PI target and PI data validity (C15): the `until0` scanner in front of
    `?>`, the run of `name` / `pi_target` in front of a character that cannot continue a name. -/
namespace XmlRs.C15
open XmlRs XmlRs.Dom Gen.Xml XmlRs.Names

abbrev qg : Str := ['?', '>']
abbrev xmlS : Str := ['x', 'm', 'l']

theorem split_qg_append : ∀ s : Str, splitAtSub qg s = none → splitAtSub qg (s ++ qg) = some (s, qg) :=
  splitAtSub_append_self (by decide) (by decide)

theorem span_span_split (c : Char) (rest : Str) (hc : P.isNameChar c = false) (t : Str) (ht : t.all P.isNameChar = true) :
    (spanP P.isNameStartChar (t ++ c :: rest)).1 ++ (spanP P.isNameChar (spanP P.isNameStartChar (t ++ c :: rest)).2).1 = t ∧
    (spanP P.isNameChar (spanP P.isNameStartChar (t ++ c :: rest)).2).2 = c :: rest := by
  rw [Lex.span_append_stops P.isNameStartChar (.cons rest (C18.nameStart_sub c hc)) t,
    spanP_of_all P.isNameChar _ _ (Lex.all_of_all_span _ _ t ht) (.cons rest hc)]
  exact ⟨spanP_append _ t, rfl⟩

theorem pi_target_run (f : Nat) (t : Str) (c : Char) (rest : Str) (ht : t.all P.isNameChar = true) (hc : P.isNameChar c = false) :
    (∃ cst, run env (f+8) (.nt N.pi_target) (t ++ c :: rest) =
      if P.eqIgnoreAsciiCase t xmlS then .fail else .ok cst (c :: rest)) := by
  obtain ⟨h1, h2⟩ := span_span_split c rest hc t ht
  have e : [Char.ofNat 120, Char.ofNat 109, Char.ofNat 108] = xmlS := by decide
  simp only [run, env_pi_target, Prod.pi_target, name_run_full, CST.flatten, flattenL, List.append_nil, h1, h2, e]
  by_cases hx : P.eqIgnoreAsciiCase t xmlS = true
  · exact ⟨.leaf [], by simp [hx]⟩
  · exact ⟨_, by simp [hx]; rfl⟩

theorem space_cases (c : Char) (h : P.isSpace c = true) : c = ' ' ∨ c = '\t' ∨ c = '\r' ∨ c = '\n' := by
  simp only [P.isSpace, Bool.or_eq_true, beq_iff_eq] at h
  rcases h with ((h | h) | h) | h
  · exact .inl h
  · exact .inr (.inl h)
  · exact .inr (.inr (.inl h))
  · exact .inr (.inr (.inr h))

theorem ws_prefix : ∀ d : Str, d.all P.isChar = ((spanP P.isSpace d).2).all P.isChar ∧ hasSub qg d = hasSub qg (spanP P.isSpace d).2
  | [] => by simp [spanP]
  | c :: r => by
    simp only [spanP]
    split
    · next h =>
      obtain ⟨h1, h2⟩ := ws_prefix r
      have ⟨hc, hq⟩ : P.isChar c = true ∧ ¬ ('?' = c) := by
        rcases space_cases c h with rfl | rfl | rfl | rfl <;> decide
      refine ⟨by simp [hc, h1], ?_⟩
      rw [← h2]
      simp only [hasSub, splitAtSub, qg, stripPrefix, hq, if_false]
      cases splitAtSub ['?', '>'] r <;> rfl
    · exact ⟨rfl, rfl⟩

/-- `<?` target `c`... as a whole processing instruction, for a target of name characters and a `c` that ends it:
    the target must not be `xml`; then either white space and anything up to a final `?>`, or `?>` at once -/
theorem pi_match (t : Str) (c : Char) (rest : Str) (ht : t.all P.isNameChar = true) (hc : P.isNameChar c = false) :
    fullMatch N.pi ("<?".toList ++ t ++ c :: rest) =
      (!P.eqIgnoreAsciiCase t xmlS &&
        (if (spanP P.isSpace (c :: rest)).1 = [] then stripPrefix qg (c :: rest)
         else stripPrefix qg (runUntil0 P.isChar qg (spanP P.isSpace (c :: rest)).2).2) == some []) := by
  obtain ⟨f, hf, h⟩ := fullMatch_bracket (n := N.pi) (o := "<?".toList) (c := qg)
    (g := .seq [.nt N.pi_target, .alt [.seq [.cls1 P.isSpace, .until0 P.isChar qg], .seq []]]) rfl (t ++ c :: rest)
  obtain ⟨f, rfl⟩ : ∃ f', f = f' + 8 := ⟨f - 8, by omega⟩
  obtain ⟨cst, hr⟩ := pi_target_run f t c rest ht hc
  simp only [run] at hr
  rw [List.append_assoc, h]
  simp only [run, runSeq, runAlt, hr]
  cases P.eqIgnoreAsciiCase t xmlS with
  | true => rfl
  | false =>
    simp only [Bool.false_eq_true, if_false, Bool.not_false, Bool.true_and]
    by_cases hs : (spanP P.isSpace (c :: rest)).1 = []
    · simp only [if_pos hs]
    · simp only [if_neg hs]

theorem pi_data_run (t d : Str) (ht : t.all P.isNameChar = true) (hx : P.eqIgnoreAsciiCase t xmlS = false) :
    validPI t d = (d.all P.isChar && !hasSub ['?', '>'] d) := by
  have hin : "<?".toList ++ t ++ ' ' :: d ++ "?>".toList = "<?".toList ++ t ++ ' ' :: (d ++ qg) := by
    rw [List.append_assoc _ _ "?>".toList]; rfl
  have hsp : spanP P.isSpace (' ' :: (d ++ qg)) = (' ' :: (spanP P.isSpace d).1, (spanP P.isSpace d).2 ++ qg) := by
    rw [spanP, if_pos (by decide), Lex.span_append_stops P.isSpace (.cons ['>'] (by decide : P.isSpace '?' = false)) d]
  obtain ⟨w1, w2⟩ := ws_prefix d
  rw [validPI, hin, pi_match t ' ' _ ht (by decide), hx, hsp, if_neg (List.cons_ne_nil _ _), w1, w2, Bool.eq_iff_iff,
    Bool.not_false, Bool.true_and, beq_iff_eq, until_key (by decide) (by decide) (by decide),
    Bool.and_eq_true, Bool.not_eq_true']

theorem isName_all (t : Str) (h : isName t = true) : t.all P.isNameChar = true := by
  cases t with
  | nil => simp [isName] at h
  | cons c r =>
    simp only [isName, Bool.and_eq_true] at h
    simp [C18.nameStart_sub_nameChar c h.1, h.2]

end XmlRs.C15
