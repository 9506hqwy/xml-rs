import XmlRsModel.Dom
import XmlRsModel.Lemmas.PegSound
import XmlRsModel.Lemmas.Names
/-! Helper lemmas for the closed forms of the data-validity predicates (C15): productions of the shape
    `open g close` matched against a whole text, the `until0` scanner in front of its own stop string, and the
    comment loop `(('-')? (Char - '-')+)*` run with fuel. -/
namespace XmlRs.C15
open XmlRs XmlRs.Dom Gen.Xml

/-- a production `o g c` on a text that begins with `o`: what `g` leaves must be exactly `c`.  Of the fuel `g` runs
    with (`fullMatch` starts with 100000 + 64 per character) only a lower bound is kept. -/
theorem fullMatch_bracket {n : Nat} {o c : Str} {g : G} (hn : env n = .seq [.tag o, g, .tag c]) (s : Str) :
    ∃ f, s.length + 99997 ≤ f ∧ fullMatch n (o ++ s) = (match run env (f + 1) g s with
      | .ok _ rest => stripPrefix c rest == some []
      | _ => false) := by
  refine ⟨64 * (o ++ s).length + 99997, by rw [List.length_append]; omega, ?_⟩
  rw [fullMatch, show 100000 + 64 * (o ++ s).length = 64 * (o ++ s).length + 99997 + 3 by omega]
  generalize 64 * (o ++ s).length + 99997 = f
  simp only [run, hn, runSeq, stripPrefix_append]
  cases run env (f + 1) g s with
  | ok k rest =>
    dsimp only
    cases stripPrefix c rest with
    | none => rfl
    | some r => cases r <;> simp
  | fail => rfl
  | fuel => rfl

theorem hasSub_eq_false_iff {t s : Str} : hasSub t s = false ↔ splitAtSub t s = none := by
  rw [hasSub, Option.isSome_eq_false_iff, Option.isNone_iff_eq_none]

theorem hasSub_cons (pat : Str) (c : Char) (r : Str) :
    hasSub pat (c :: r) = ((stripPrefix pat (c :: r)).isSome || hasSub pat r) := by
  rw [hasSub, splitAtSub, hasSub]
  cases stripPrefix pat (c :: r) with
  | some _ => rfl
  | none => cases splitAtSub pat r <;> rfl

theorem hasSub_append_left (pat : Str) : ∀ (s t : Str), hasSub pat t = true → hasSub pat (s ++ t) = true
  | [], _, h => h
  | c :: cs, t, h => by rw [List.cons_append, hasSub_cons, hasSub_append_left pat cs t h, Bool.or_true]

theorem hasSub_append_right (pat : Str) : ∀ (s t : Str), hasSub pat s = true → hasSub pat (s ++ t) = true
  | [], [], h => h
  | [], a :: b, h => by
    by_cases hp : pat = []
    · rw [hp]; rfl
    · rw [hasSub, splitAtSub, if_neg hp] at h; cases h
  | c :: cs, t, h => by
    rw [hasSub_cons, Bool.or_eq_true] at h
    rw [List.cons_append, hasSub_cons, Bool.or_eq_true]
    rcases h with h | h
    · obtain ⟨r, hr⟩ := Option.isSome_iff_exists.mp h
      exact .inl (by rw [← List.cons_append, stripPrefix_some_append t hr]; rfl)
    · exact .inr (hasSub_append_right pat cs t h)

theorem noSub_parts (pat a b : Str) (h : hasSub pat (a ++ b) = false) : hasSub pat a = false ∧ hasSub pat b = false := by
  constructor
  · cases ha : hasSub pat a with
    | false => rfl
    | true => rw [hasSub_append_right pat a b ha] at h; cases h
  · cases hb : hasSub pat b with
    | false => rfl
    | true => rw [hasSub_append_left pat a b hb] at h; cases h

abbrev Unbordered (t : Str) : Prop := ∀ k, k < t.length → 0 < k → ¬ t.drop k <+: t

theorem stripPrefix_self (t : Str) : stripPrefix t t = some [] := by
  have := stripPrefix_append t []
  rwa [List.append_nil] at this

theorem stripPrefix_append_self_iff (t u : Str) : stripPrefix t (u ++ t) = some [] ↔ u = [] := by
  refine ⟨fun h => ?_, fun h => by rw [h]; exact stripPrefix_self t⟩
  have := congrArg List.length (stripPrefix_some h)
  rw [List.length_append, List.length_append, List.length_nil] at this
  exact List.length_eq_zero_iff.mp (by omega)

theorem stripPrefix_none_append {t : Str} (ht : Unbordered t) {x : Str} (hx : x ≠ []) (h : stripPrefix t x = none) :
    stripPrefix t (x ++ t) = none := by
  cases h' : stripPrefix t (x ++ t) with
  | none => rfl
  | some r =>
    exfalso
    have hp : t <+: x ++ t := ⟨r, (stripPrefix_some h').symm⟩
    -- `t` and `x` begin the same string: `t` begins `x` (excluded by `h`), or `x` begins `t`, and then what is left of `t` begins `t`
    rcases List.prefix_or_prefix_of_prefix hp (List.prefix_append x t) with ⟨y, rfl⟩ | ⟨t', rfl⟩
    · rw [stripPrefix_append] at h; cases h
    · cases t' with
      | nil => rw [List.append_nil, stripPrefix_self] at h; cases h
      | cons c t' =>
        refine ht x.length (by simp) (List.length_pos_iff.2 hx) ?_
        rw [List.drop_left]
        exact (List.prefix_append_right_inj x).mp hp

theorem splitAtSub_append_self {t : Str} (ht : Unbordered t) (hne : t ≠ []) :
    ∀ s : Str, splitAtSub t s = none → splitAtSub t (s ++ t) = some (s, t)
  | [], _ => by
    obtain ⟨c, t', rfl⟩ := List.exists_cons_of_ne_nil hne
    rw [List.nil_append, splitAtSub, stripPrefix_self]
  | c :: cs, h => by
    rw [splitAtSub] at h
    cases hn : stripPrefix t (c :: cs) with
    | some r => rw [hn] at h; cases h
    | none =>
      rw [hn] at h
      cases hrec : splitAtSub t cs with
      | some ab => rw [hrec] at h; cases h
      | none =>
        rw [List.cons_append, splitAtSub, ← List.cons_append,
          stripPrefix_none_append ht (List.cons_ne_nil c cs) hn, splitAtSub_append_self ht hne cs hrec]

theorem until_key {p : Char → Bool} {t : Str} (hp : t.all p = true) (ht : Unbordered t) (hne : t ≠ []) (s : Str) :
    stripPrefix t (runUntil0 p t (s ++ t)).2 = some [] ↔ (s.all p = true ∧ hasSub t s = false) := by
  constructor
  · intro h
    obtain ⟨a, _, happ, hall, hsub⟩ := runUntil0_spec p t (s ++ t)
    rw [stripPrefix_some h, List.append_nil] at happ
    obtain rfl := List.append_cancel_right happ
    exact ⟨List.all_eq_true.mpr hall, hsub hne⟩
  · intro ⟨hall, hsub⟩
    rw [runUntil0, Names.spanP_eq_of_all (by rw [List.all_append, hall, hp]; rfl),
      splitAtSub_append_self ht hne s (hasSub_eq_false_iff.mp hsub)]
    exact stripPrefix_append t []

theorem until_end {p : Char → Bool} {t : Str} (hne : t ≠ []) (s : Str) :
    (runUntil0 p t s).2 = [] ↔ (s.all p = true ∧ hasSub t s = false) := by
  constructor
  · intro h
    obtain ⟨a, _, happ, hall, hsub⟩ := runUntil0_spec p t s
    rw [h, List.append_nil] at happ
    subst happ
    exact ⟨List.all_eq_true.mpr hall, hsub hne⟩
  · intro ⟨hall, hsub⟩
    rw [runUntil0, Names.spanP_eq_of_all hall, hasSub_eq_false_iff.mp hsub]

abbrev suf : Str := [']', ']', '>']

theorem split_suf_append : ∀ s : Str, splitAtSub suf s = none → splitAtSub suf (s ++ suf) = some (s, suf) :=
  splitAtSub_append_self (by decide) (by decide)

/-- production [15] of XML 1.0 as a recogniser of the text between `<!--` and `-->`:
    `((Char - '-') | ('-' (Char - '-')))*` -/
def isCommentBody : Str → Bool
  | [] => true
  | ['-'] => false
  | '-' :: d :: r => P.isChar d && d != '-' && isCommentBody r
  | c :: r => P.isChar c && isCommentBody r

abbrev nd : Char → Bool := P.except P.isChar ['-']

theorem nd_iff (c : Char) : nd c = (P.isChar c && c != '-') := by
  by_cases h : c = '-' <;> simp [nd, P.except, h]

theorem body_nondash (c : Char) (r : Str) (h : c ≠ '-') : isCommentBody (c :: r) = (P.isChar c && isCommentBody r) := by
  conv => lhs; unfold isCommentBody
  split <;> simp_all

theorem body_span : ∀ r : Str, isCommentBody r = isCommentBody (spanP nd r).2
  | [] => by simp [spanP]
  | d :: r' => by
    simp only [spanP]
    split
    · next h =>
      rw [nd_iff] at h
      simp only [Bool.and_eq_true, bne_iff_ne, ne_eq] at h
      rw [body_nondash d r' h.2, h.1, Bool.true_and]
      exact body_span r'
    · rfl

def gC : G := G.seq [G.alt [G.tag ['-'], G.seq []], G.cls1 nd]

abbrev dashEnd : Str := ['-', '-', '>']

theorem nd_dash : nd '-' = false := by decide

theorem spanP_fst_nil_iff (p : Char → Bool) (c : Char) (r : Str) : (spanP p (c :: r)).1 = [] ↔ p c = false := by
  simp only [spanP]
  split <;> simp_all

theorem body_dash (d : Char) (r' : Str) (h : nd d = true) : isCommentBody ('-' :: d :: r') = isCommentBody (d :: r') := by
  rw [nd_iff] at h
  simp only [Bool.and_eq_true, bne_iff_ne, ne_eq] at h
  rw [body_nondash d r' h.2]
  conv => lhs; unfold isCommentBody
  simp [h.1, h.2]

theorem body_dash_false (r : Str) (h : (spanP nd r).1 = []) : isCommentBody ('-' :: r) = false := by
  cases r with
  | nil => rfl
  | cons d r' =>
    have hd := (spanP_fst_nil_iff nd d r').1 h
    rw [nd_iff] at hd
    conv => lhs; unfold isCommentBody
    simp only [hd, Bool.false_and]

def dropDash : Str → Str
  | '-' :: r => r
  | s => s

theorem dropDash_cons {c : Char} (t : Str) (hc : c ≠ '-') : dropDash (c :: t) = c :: t := by
  unfold dropDash; split <;> simp_all

theorem dropDash_length (s : Str) : (dropDash s).length ≤ s.length := by
  unfold dropDash; split <;> simp

theorem iter (k : Nat) (s : Str) : ∃ c, run env (k + 4) gC s =
    if (spanP nd (dropDash s)).1 = [] then .fail else .ok c (spanP nd (dropDash s)).2 := by
  rcases s with _ | ⟨c, t⟩
  · exact ⟨.leaf [], by simp [gC, run, runSeq, runAlt, stripPrefix, dropDash, spanP]⟩
  · by_cases hc : c = '-'
    · subst hc
      refine ⟨.seq [.leaf ['-'], .leaf (spanP nd t).1], ?_⟩
      by_cases he : (spanP nd t).1 = [] <;> simp [gC, run, runSeq, runAlt, stripPrefix, dropDash, he]
    · have h' : ¬ ('-' = c) := fun e => hc e.symm
      refine ⟨.seq [.seq [], .leaf (spanP nd (c :: t)).1], ?_⟩
      rw [dropDash_cons t hc]
      by_cases he : (spanP nd (c :: t)).1 = [] <;> simp [gC, run, runSeq, runAlt, stripPrefix, h', he]

theorem body_stop (s : Str) (h : (spanP nd (dropDash s)).1 = []) : isCommentBody s = true ↔ s = [] := by
  cases s with
  | nil => exact ⟨fun _ => rfl, fun _ => rfl⟩
  | cons c t =>
    refine ⟨fun hb => ?_, nofun⟩
    by_cases hc : c = '-'
    · subst hc; rw [body_dash_false t h] at hb; cases hb
    · rw [dropDash_cons t hc, spanP_fst_nil_iff, nd_iff, Bool.and_eq_false_iff] at h
      rw [body_nondash c t hc, Bool.and_eq_true] at hb
      rcases h with h | h
      · rw [hb.1] at h; cases h
      · simp [hc] at h

theorem body_step (s : Str) (h : (spanP nd (dropDash s)).1 ≠ []) :
    isCommentBody s = isCommentBody (spanP nd (dropDash s)).2 := by
  cases s with
  | nil => rfl
  | cons c t =>
    by_cases hc : c = '-'
    · subst hc
      cases t with
      | nil => exact absurd rfl h
      | cons d r =>
        have hd : nd d = true := Bool.not_eq_false _ |>.mp fun hx => h ((spanP_fst_nil_iff nd d r).2 hx)
        rw [body_dash d r hd]; exact body_span (d :: r)
    · rw [dropDash_cons t hc]; exact body_span (c :: t)

/-- the comment loop in front of `-->`: what it leaves is exactly `-->` iff it has read a body of production [15].
    `n` bounds the length of the text, for the induction. -/
theorem loop_lt : ∀ (n : Nat) (s : Str), s.length < n → ∀ f, n + 4 ≤ f →
    ∃ ks rest, runMany env f gC (s ++ dashEnd) = .ok ks rest ∧ (stripPrefix dashEnd rest = some [] ↔ isCommentBody s = true)
  | 0, _, h, _, _ => nomatch h
  | n + 1, s, hs, f, hf => by
    obtain ⟨k, rfl⟩ : ∃ k, f = k + 4 + 1 := ⟨f - 5, by omega⟩
    obtain ⟨cst, hrun⟩ := iter k (s ++ dashEnd)
    rw [runMany_succ, hrun]
    cases s with
    | nil => exact ⟨[], dashEnd, rfl, ⟨fun _ => rfl, fun _ => rfl⟩⟩
    | cons c r =>
      have hd : dropDash (c :: r ++ dashEnd) = dropDash (c :: r) ++ dashEnd := by
        by_cases hc : c = '-'
        · subst hc; rfl
        · rw [List.cons_append, dropDash_cons _ hc, dropDash_cons _ hc]; rfl
      rw [hd, Lex.span_append_stops nd (.cons _ nd_dash)]
      by_cases he : (spanP nd (dropDash (c :: r))).1 = []
      · exact ⟨[], c :: r ++ dashEnd, by rw [if_pos he], by rw [body_stop _ he, stripPrefix_append_self_iff]⟩
      · have hlen : (spanP nd (dropDash (c :: r))).2.length < (c :: r).length := by
          have h1 := congrArg List.length (spanP_append nd (dropDash (c :: r)))
          have h2 := dropDash_length (c :: r)
          have h3 := List.length_pos_iff.mpr he
          rw [List.length_append] at h1; omega
        obtain ⟨ks, rest, h1, h2⟩ := loop_lt n (spanP nd (dropDash (c :: r))).2 (by omega) (k + 4) (by omega)
        refine ⟨cst :: ks, rest, ?_, by rw [h2, ← body_step _ he]⟩
        rw [if_neg he]
        dsimp only
        rw [if_pos (by simp only [List.length_append, List.length_cons] at hlen ⊢; omega), h1]

abbrev dd : Str := ['-', '-']

theorem hasSub_dd_cons (c : Char) (r : Str) :
    hasSub dd (c :: r) = ((c == '-' && r.head? == some '-') || hasSub dd r) := by
  rw [hasSub_cons]
  congr 1
  by_cases hc : c = '-'
  · subst hc
    rcases r with _ | ⟨d, r⟩
    · rfl
    · by_cases hd : d = '-'
      · subst hd; rfl
      · simp [stripPrefix, hd, Ne.symm hd]
  · cases r <;> simp [stripPrefix, hc, Ne.symm hc]

theorem last_dash_cons {c : Char} (hc : c ≠ '-') (r : Str) : ((c :: r).getLast? == some '-') = (r.getLast? == some '-') := by
  rw [List.getLast?_cons]
  cases r.getLast? <;> simp [hc]

theorem isChar_dash : P.isChar '-' = true := by decide

end XmlRs.C15
