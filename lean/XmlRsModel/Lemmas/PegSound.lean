import XmlRsModel.Peg
/-! Generic soundness of the PEG interpreter: whatever `run` accepts is a derivation of the
    context-free reading of the same grammar, and it consumes exactly the text it returns. -/
namespace XmlRs

theorem stripPrefix_some_append {pat s r : Str} (t : Str) (h : stripPrefix pat s = some r) :
    stripPrefix pat (s ++ t) = some (r ++ t) := by
  rw [stripPrefix_some h, List.append_assoc, stripPrefix_append]

theorem stripPrefix_none_of_append {pat a : Str} (b : Str) (h : stripPrefix pat (a ++ b) = none) : stripPrefix pat a = none := by
  cases ha : stripPrefix pat a with
  | none => rfl
  | some r => rw [stripPrefix_some_append b ha] at h; cases h

theorem splitAtSub_spec (pat : Str) : ∀ (s a b : Str), splitAtSub pat s = some (a, b) →
    a ++ b = s ∧ (pat ≠ [] → splitAtSub pat a = none)
  | [], a, b, h => by
      simp only [splitAtSub] at h
      split at h
      · next hp => simp at h; obtain ⟨rfl, rfl⟩ := h; exact ⟨rfl, fun hne => absurd hp hne⟩
      · cases h
  | c :: cs, a, b, h => by
      simp only [splitAtSub] at h
      split at h
      · simp at h; obtain ⟨rfl, rfl⟩ := h
        refine ⟨rfl, fun hne => ?_⟩
        simp [splitAtSub, hne]
      · next hnone =>
        split at h
        · next a' b' hrec =>
          simp only [Option.some.injEq, Prod.mk.injEq] at h
          obtain ⟨rfl, rfl⟩ := h
          obtain ⟨h1, h2⟩ := splitAtSub_spec pat cs a' b' hrec
          refine ⟨by simp [h1], fun hne => ?_⟩
          have hn : stripPrefix pat (c :: a') = none := by
            apply stripPrefix_none_of_append b'
            simpa [h1] using hnone
          simp [splitAtSub, hn, h2 hne]
        · cases h

theorem runUntil0_spec (p : Char → Bool) (stop s : Str) :
    ∃ t, (runUntil0 p stop s).1 = .leaf t ∧ t ++ (runUntil0 p stop s).2 = s ∧
      (∀ c ∈ t, p c = true) ∧ (stop ≠ [] → hasSub stop t = false) := by
  unfold runUntil0
  split
  · next a b h =>
    obtain ⟨h1, h2⟩ := splitAtSub_spec stop _ a b h
    refine ⟨a, rfl, ?_, ?_, ?_⟩
    · have := spanP_append p s
      simp only [← List.append_assoc, h1]; exact this
    · intro c hc; apply spanP_all p s; rw [← h1]; simp [hc]
    · intro hne; simp [hasSub, h2 hne]
  · next h =>
    refine ⟨_, rfl, spanP_append p s, spanP_all p s, fun _ => ?_⟩
    simp [hasSub, h]

theorem runMany_succ (env : Env) (f : Nat) (g : G) (s : Str) : runMany env (f+1) g s =
    match run env f g s with
    | .ok c r => if r.length < s.length then
                   match runMany env f g r with
                   | .ok ks r' => .ok (c :: ks) r'
                   | .fail => .fail
                   | .fuel => .fuel
                 else .fail
    | .fail => .ok [] s
    | .fuel => .fuel := by rw [runMany]; rfl

theorem run_sound (env : Env) : ∀ f,
    (∀ g s c r, run env f g s = .ok c r → Derives env g c ∧ c.flatten ++ r = s) ∧
    (∀ gs s ks r, runSeq env f gs s = .ok ks r → DerivesSeq env gs ks ∧ flattenL ks ++ r = s) ∧
    (∀ gs s c r, runAlt env f gs s = .ok c r → (∃ g ∈ gs, Derives env g c) ∧ c.flatten ++ r = s) ∧
    (∀ g s ks r, runMany env f g s = .ok ks r → DerivesAll env g ks ∧ flattenL ks ++ r = s) := by
  intro f
  -- `runSeq` and `runAlt` pass their fuel on to `run`: given `run` at some fuel, they follow by induction on the list
  have seqOf : ∀ f, (∀ g s c r, run env f g s = .ok c r → Derives env g c ∧ c.flatten ++ r = s) →
      ∀ gs s ks r, runSeq env f gs s = .ok ks r → DerivesSeq env gs ks ∧ flattenL ks ++ r = s := by
    intro f hRun gs
    induction gs with
    | nil => intro s ks r h; rw [runSeq] at h; cases h; exact ⟨.nil, rfl⟩
    | cons g gs ih =>
      intro s ks r h
      simp only [runSeq] at h
      cases hr : run env f g s <;> simp only [hr] at h <;> try cases h
      rename_i c r1
      cases hs : runSeq env f gs r1 <;> simp only [hs] at h <;> cases h
      obtain ⟨h1, h2⟩ := hRun _ _ _ _ hr
      obtain ⟨h3, h4⟩ := ih _ _ _ hs
      exact ⟨.cons _ _ _ _ h1 h3, by rw [← h2, ← h4, flattenL, List.append_assoc]⟩
  have altOf : ∀ f, (∀ g s c r, run env f g s = .ok c r → Derives env g c ∧ c.flatten ++ r = s) →
      ∀ gs s c r, runAlt env f gs s = .ok c r → (∃ g ∈ gs, Derives env g c) ∧ c.flatten ++ r = s := by
    intro f hRun gs
    induction gs with
    | nil => intro s c r h; rw [runAlt] at h; cases h
    | cons g gs ih =>
      intro s c r h
      simp only [runAlt] at h
      cases hr : run env f g s <;> simp only [hr] at h
      · cases h
        obtain ⟨h1, h2⟩ := hRun _ _ _ _ hr
        exact ⟨⟨g, List.mem_cons_self .., h1⟩, h2⟩
      · obtain ⟨⟨g', hg', hd⟩, h2⟩ := ih _ _ _ h
        exact ⟨⟨g', List.mem_cons_of_mem _ hg', hd⟩, h2⟩
      · cases h
  have run0 : ∀ g s c r, run env 0 g s = .ok c r → Derives env g c ∧ c.flatten ++ r = s := fun g s c r h => by
    rw [run] at h; cases h
  induction f with
  | zero => exact ⟨run0, seqOf 0 run0, altOf 0 run0, fun g s ks r h => by rw [runMany] at h; cases h⟩
  | succ f ih =>
    obtain ⟨ihRun, ihSeq, ihAlt, ihMany⟩ := ih
    have hRun : ∀ g s c r, run env (f+1) g s = .ok c r → Derives env g c ∧ c.flatten ++ r = s := by
      intro g s c r h
      cases g with
      | tag t =>
        simp only [run] at h
        cases hs : stripPrefix t s <;> simp only [hs] at h <;> cases h
        exact ⟨.tag t, (stripPrefix_some hs).symm⟩
      | one p =>
        cases s with
        | nil => rw [run] at h; cases h
        | cons c0 r0 =>
          simp only [run] at h
          by_cases hp : p c0 = true
          · rw [if_pos hp] at h; cases h; exact ⟨.one p _ hp, rfl⟩
          · rw [if_neg hp] at h; cases h
      | cls0 p => rw [run] at h; cases h; exact ⟨.cls0 p _ (spanP_all p s), spanP_append p s⟩
      | cls1 p =>
        simp only [run] at h
        by_cases hne : (spanP p s).1 = []
        · rw [if_pos hne] at h; cases h
        · rw [if_neg hne] at h; cases h; exact ⟨.cls1 p _ hne (spanP_all p s), spanP_append p s⟩
      | until0 p stop =>
        rw [run] at h; cases h
        obtain ⟨t, ht, happ, hall, hsub⟩ := runUntil0_spec p stop s
        rw [ht]; exact ⟨.until0 p stop t hall hsub, happ⟩
      | seq gs =>
        simp only [run] at h
        cases hs : runSeq env f gs s <;> simp only [hs] at h <;> cases h
        exact ⟨.seq _ _ (ihSeq _ _ _ _ hs).1, (ihSeq _ _ _ _ hs).2⟩
      | alt gs =>
        rw [run] at h
        obtain ⟨⟨g, hg, hd⟩, h2⟩ := ihAlt _ _ _ _ h
        exact ⟨.alt _ g _ hg hd, h2⟩
      | many0 g =>
        simp only [run] at h
        cases hm : runMany env f g s <;> simp only [hm] at h <;> cases h
        exact ⟨.many _ _ (ihMany _ _ _ _ hm).1, (ihMany _ _ _ _ hm).2⟩
      | verify g p =>
        simp only [run] at h
        cases hr : run env f g s <;> simp only [hr] at h <;> try cases h
        rename_i c' r'
        by_cases hp : p c' = true
        · rw [if_pos hp] at h; cases h; exact ⟨.verify _ _ _ (ihRun _ _ _ _ hr).1 hp, (ihRun _ _ _ _ hr).2⟩
        · rw [if_neg hp] at h; cases h
      | nt n =>
        simp only [run] at h
        cases hr : run env f (env n) s <;> simp only [hr] at h <;> cases h
        exact ⟨.nt _ _ (ihRun _ _ _ _ hr).1, (ihRun _ _ _ _ hr).2⟩
    refine ⟨hRun, seqOf _ hRun, altOf _ hRun, ?_⟩
    intro g s ks r h
    rw [runMany_succ] at h
    cases hr : run env f g s <;> simp only [hr] at h
    · rename_i c r1
      by_cases hl : r1.length < s.length
      · rw [if_pos hl] at h
        cases hm : runMany env f g r1 <;> simp only [hm] at h <;> cases h
        obtain ⟨h1, h2⟩ := ihRun _ _ _ _ hr
        obtain ⟨h3, h4⟩ := ihMany _ _ _ _ hm
        exact ⟨.cons _ _ _ h1 h3, by rw [← h2, ← h4, flattenL, List.append_assoc]⟩
      · rw [if_neg hl] at h; cases h
    · cases h; exact ⟨.nil _, rfl⟩
    · cases h

theorem run_derives {env : Env} {f : Nat} {g : G} {s : Str} {c : CST} {r : Str} (h : run env f g s = .ok c r) :
    Derives env g c ∧ c.flatten ++ r = s := (run_sound env f).1 g s c r h

/-- every case is the same step: the answer of the call below is not `fuel` either, so by induction it is unchanged -/
theorem run_mono (env : Env) : ∀ f,
    (∀ g s, run env f g s ≠ .fuel → run env (f+1) g s = run env f g s) ∧
    (∀ gs s, runSeq env f gs s ≠ .fuel → runSeq env (f+1) gs s = runSeq env f gs s) ∧
    (∀ gs s, runAlt env f gs s ≠ .fuel → runAlt env (f+1) gs s = runAlt env f gs s) ∧
    (∀ g s, runMany env f g s ≠ .fuel → runMany env (f+1) g s = runMany env f g s) := by
  intro f
  have seqOf : ∀ f, (∀ g s, run env f g s ≠ .fuel → run env (f+1) g s = run env f g s) →
      ∀ gs s, runSeq env f gs s ≠ .fuel → runSeq env (f+1) gs s = runSeq env f gs s := by
    intro f hRun gs
    induction gs with
    | nil => intro s _; simp only [runSeq]
    | cons g gs ih =>
      intro s h
      simp only [runSeq] at h ⊢
      rw [hRun g s fun e => h (by rw [e])]
      cases hr : run env f g s with
      | ok c r => simp only [hr] at h ⊢; rw [ih r fun e => h (by rw [e])]
      | _ => rfl
  have altOf : ∀ f, (∀ g s, run env f g s ≠ .fuel → run env (f+1) g s = run env f g s) →
      ∀ gs s, runAlt env f gs s ≠ .fuel → runAlt env (f+1) gs s = runAlt env f gs s := by
    intro f hRun gs
    induction gs with
    | nil => intro s _; simp only [runAlt]
    | cons g gs ih =>
      intro s h
      simp only [runAlt] at h ⊢
      rw [hRun g s fun e => h (by rw [e])]
      cases hr : run env f g s with
      | fail => simp only [hr] at h ⊢; exact ih s h
      | _ => rfl
  have run0 : ∀ g s, run env 0 g s ≠ .fuel → run env 1 g s = run env 0 g s := fun g s h => absurd (by simp only [run]) h
  induction f with
  | zero => exact ⟨run0, seqOf 0 run0, altOf 0 run0, fun g s h => absurd (by simp only [runMany]) h⟩
  | succ f ih =>
    obtain ⟨ihRun, ihSeq, ihAlt, ihMany⟩ := ih
    have hRun : ∀ g s, run env (f+1) g s ≠ .fuel → run env (f+1+1) g s = run env (f+1) g s := by
      intro g s h
      cases g with
      | seq gs => simp only [run] at h ⊢; rw [ihSeq gs s fun e => h (by rw [e])]
      | alt gs => simp only [run] at h ⊢; exact ihAlt gs s h
      | many0 g => simp only [run] at h ⊢; rw [ihMany g s fun e => h (by rw [e])]
      | verify g p => simp only [run] at h ⊢; rw [ihRun g s fun e => h (by rw [e])]
      | nt n => simp only [run] at h ⊢; rw [ihRun _ s fun e => h (by rw [e])]
      | one p => cases s <;> simp only [run]
      | _ => simp only [run]
    refine ⟨hRun, seqOf _ hRun, altOf _ hRun, ?_⟩
    intro g s h
    rw [runMany_succ] at h
    rw [runMany_succ env (f+1), runMany_succ env f, ihRun g s fun e => h (by rw [e])]
    cases hr : run env f g s with
    | ok c r =>
      simp only [hr] at h ⊢
      by_cases hl : r.length < s.length
      · simp only [hl, if_true] at h ⊢; rw [ihMany g r fun e => h (by rw [e])]
      · simp only [hl, if_false]
    | _ => rfl

theorem run_mono_le (env : Env) {f f' : Nat} (hle : f ≤ f') {g : G} {s : Str} {out : Res CST}
    (h : run env f g s = out) (hne : out ≠ .fuel) : run env f' g s = out := by
  induction hle with
  | refl => exact h
  | step _ ih => rw [← ih]; exact (run_mono env _).1 g s (ih ▸ hne)

end XmlRs
