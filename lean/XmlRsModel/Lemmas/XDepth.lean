import XmlRsModel.Lemmas.XAbsFinal
/-! The `expr` nesting depth of the tree of a spelling is the nesting depth of the spelling: only the `expr` nodes of
    parentheses, predicates and arguments count, every other label is transparent. -/
namespace XmlRs.XLex
open XmlRs XmlRs.XPath XmlRs.Lex
open Gen.XPath

theorem depth_node_expr (c : CST) : exprDepth (.node N.expr c) = exprDepth c + 1 := by simp [exprDepth]
theorem depth_node_other {n : Nat} (h : n ≠ N.expr) (c : CST) : exprDepth (.node n c) = exprDepth c := by
  simp [exprDepth, h]

theorem levelNt_beq (l : Nat) : (levelNt l == N.expr) = false := by unfold levelNt; split <;> rfl

theorem depth_nc (a : Str) : exprDepth (cstNc a) = 0 := by
  unfold cstNc
  split <;> simp +decide only [exprDepth, exprDepthL, reduceIte, Nat.max_self]

theorem depth_qn (q : QN) : exprDepth (cstQN q) = 0 := by
  obtain ⟨pre, loc⟩ := q
  cases pre <;> simp +decide only [cstQN, exprDepth, exprDepthL, depth_nc, reduceIte, Nat.max_self]

theorem depth_lit (q : Char) (s : Str) : exprDepth (cstLit q s) = 0 := by
  simp +decide only [cstLit, exprDepth, exprDepthL, reduceIte, Nat.max_self]

theorem depth_num (s : Str) : exprDepth (cstNum s) = 0 := by
  unfold cstNum numCst
  split
  · split <;> simp +decide only [exprDepth, exprDepthL, reduceIte, Nat.max_self]
  · simp +decide only [exprDepth, exprDepthL, reduceIte, Nat.max_self]

theorem depth_axis (a : CAxis) : exprDepth (cstAxis a) = 0 := by
  cases a <;> simp +decide only [cstAxis, exprDepth, exprDepthL, reduceIte, Nat.max_self]

theorem depth_test (t : CTest) : exprDepth (cstTest t) = 0 := by
  cases t <;> simp +decide only [cstTest, exprDepth, exprDepthL, depth_nc, depth_qn, depth_lit, reduceIte, Nat.max_self]

theorem depth_minus (ms : List Str) : exprDepthL (cstMinus ms) = 0 := by
  induction ms with
  | nil => rfl
  | cons w r ih => simp only [cstMinus, List.map_cons] at ih ⊢; simp only [exprDepthL, exprDepth, ih, Nat.max_self]

mutual
theorem depth_x : ∀ e : CX, exprDepth (cstX e) = e.nest
  | .chain l a r => by
    simp only [cstX, CX.nest, exprDepth, exprDepthL, levelNt_beq, Bool.false_eq_true, reduceIte, Nat.max_zero, depth_x a, depth_tail r]
  | .unary ms e => by
    simp +decide only [cstX, CX.nest, exprDepth, exprDepthL, reduceIte, Nat.max_zero, Nat.zero_max, depth_x e, depth_minus]
  | .union a r => by
    simp +decide only [cstX, CX.nest, exprDepth, exprDepthL, reduceIte, Nat.max_zero, depth_x a, depth_tail r]
  | .pathF a => by
    simp +decide only [cstX, CX.nest, exprDepth, exprDepthL, reduceIte, Nat.max_zero, depth_x a]
  | .pathFR a w1 ds w2 rel => by
    simp +decide only [cstX, CX.nest, exprDepth, exprDepthL, reduceIte, Nat.max_zero, Nat.zero_max, depth_x a, depth_rel rel]
  | .pathAbs ds w rel => by
    simp +decide only [cstX, CX.nest, exprDepth, exprDepthL, reduceIte, Nat.max_zero, Nat.zero_max, depth_rel rel]
  | .pathRel rel => by
    simp +decide only [cstX, CX.nest, exprDepth, reduceIte, depth_rel rel]
  | .pathRoot => rfl
  | .filter p preds => by
    simp +decide only [cstX, CX.nest, exprDepth, exprDepthL, reduceIte, Nat.max_zero, depth_x p, depth_preds preds]
  | .var q => by
    simp +decide only [cstX, CX.nest, exprDepth, exprDepthL, reduceIte, Nat.max_zero, depth_qn]
  | .paren w1 e w2 => by
    simp +decide only [cstX, CX.nest, exprDepth, exprDepthL, reduceIte, Nat.max_zero, Nat.zero_max, depth_x e]
  | .lit q s => by
    simp +decide only [cstX, CX.nest, exprDepth, reduceIte, depth_lit]
  | .num s => by
    simp +decide only [cstX, CX.nest, exprDepth, reduceIte, depth_num]
  | .call f w1 w2 args w3 => by
    simp +decide only [cstX, CX.nest, exprDepth, exprDepthL, reduceIte, Nat.max_zero, Nat.zero_max, depth_qn, depth_args args]
theorem depth_tail : ∀ t : CXTail, exprDepthL (cstTail t) = t.nest
  | .nil => rfl
  | .cons w1 op w2 e t => by
    simp only [cstTail, CXTail.nest, exprDepth, exprDepthL, Nat.max_zero, Nat.zero_max, depth_x e, depth_tail t]
theorem depth_args : ∀ a : CArgs, exprDepth (cstArgs a) = a.nest
  | .none => rfl
  | .some a r => by
    simp +decide only [cstArgs, CArgs.nest, exprDepth, exprDepthL, reduceIte, Nat.max_zero, depth_x a, depth_argtail r]
theorem depth_argtail : ∀ t : CArgTail, exprDepthL (cstArgTail t) = t.nest
  | .nil => rfl
  | .cons w1 w2 e t => by
    simp +decide only [cstArgTail, CArgTail.nest, exprDepth, exprDepthL, reduceIte, Nat.max_zero, Nat.zero_max, depth_x e, depth_argtail t]
theorem depth_rel : ∀ r : CRel, exprDepth (cstRel r) = r.nest
  | .mk s t => by
    simp +decide only [cstRel, CRel.nest, exprDepth, exprDepthL, reduceIte, Nat.max_zero, depth_step s, depth_reltail t]
theorem depth_reltail : ∀ t : CRelTail, exprDepthL (cstRelTail t) = t.nest
  | .nil => rfl
  | .cons w1 ds w2 s t => by
    simp only [cstRelTail, CRelTail.nest, exprDepth, exprDepthL, Nat.max_zero, Nat.zero_max, depth_step s, depth_reltail t]
theorem depth_step : ∀ s : CStep, exprDepth (cstStep s) = s.nest
  | .dot => rfl
  | .dotdot => rfl
  | .full ax w test preds => by
    simp +decide only [cstStep, CStep.nest, exprDepth, exprDepthL, reduceIte, Nat.max_zero, Nat.zero_max, depth_axis, depth_test, depth_preds preds]
theorem depth_preds : ∀ p : CPreds, exprDepthL (cstPreds p) = p.nest
  | .nil => rfl
  | .cons w w1 e w2 t => by
    simp +decide only [cstPreds, CPreds.nest, exprDepth, exprDepthL, reduceIte, Nat.max_zero, Nat.zero_max, depth_x e, depth_preds t]
end

end XmlRs.XLex
