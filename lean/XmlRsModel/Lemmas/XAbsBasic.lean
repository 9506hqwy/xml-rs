import XmlRsModel.Lemmas.XRunsMain
/-! Reading the trees of concrete XPath expressions back: the significant tokens (`sigToks`) of a tree, and the
    productions without sub-expressions (names, literals, numbers, node tests, axis specifiers). -/
namespace XmlRs.XLex
open XmlRs XmlRs.XPath XmlRs.Lex
open Gen.XPath

/-- one function under two names: `isWsStr` is what `sigToks` drops, `okWs` the side condition on spellings -/
theorem isWsStr_eq (w : Str) : isWsStr w = okWs w := rfl

theorem sig_leaf_ws {w : Str} (h : okWs w = true) : sigToks (.leaf w) = [] := by
  unfold sigToks
  simp only [CST.toks]
  split
  · rfl
  · simp [isWsStr_eq, h]

theorem sig_tok {s : Str} (h : (s.isEmpty || isWsStr s) = false) : sigToks (.leaf s) = [.leaf s] := by
  simp only [Bool.or_eq_false_iff] at h
  simp [sigToks, CST.toks, h.1, h.2]

theorem sig_node (n : Nat) (c : CST) : sigToks (.node n c) = [.node n c] := rfl

theorem sig_seq_nil : sigToks (.seq []) = [] := rfl

theorem sig_seq_cons (c : CST) (cs : List CST) : sigToks (.seq (c :: cs)) = sigToks c ++ sigToks (.seq cs) := by
  simp [sigToks, CST.toks, toksL]

theorem sig_many_eq_seq (cs : List CST) : sigToks (.many cs) = sigToks (.seq cs) := by simp [sigToks, CST.toks]

theorem sig_op (op : BinOp) : sigToks (.leaf (opText op)) = [.leaf (opText op)] := by cases op <;> exact sig_tok rfl

theorem sig_slash (ds : Bool) : sigToks (.leaf (slashText ds)) = [.leaf (slashText ds)] := by cases ds <;> exact sig_tok rfl

def nodeBody : CST → CST
  | .node _ b => b
  | c => c

/-! `ncBodyX`, `litBody`: the bodies of `cstNc` and `cstLit` under names of their own, so that `cstNcX_eq` and `cstLit_eq` expose
    the `.node` and the lemmas below speak of the body without unfolding it.  The `X` is for XPath: `Lemmas/AbsTag.lean` has
    `ncBody`, `cstNc_eq` for the trees of the XML grammar. -/
def ncBodyX (a : Str) : CST := .seq [.leaf (a.take 1), if a.drop 1 = [] then .seq [] else .leaf (a.drop 1)]
theorem cstNcX_eq (a : Str) : cstNc a = .node N.ncname (ncBodyX a) := rfl

theorem ncBodyX_flatten (a : Str) : (ncBodyX a).flatten = a := cstNc_flatten a

theorem ncBodyX_kidsL (a : Str) : (ncBodyX a).kidsL = [] := by
  simp only [ncBodyX, CST.kidsL, kidsLL]
  split <;> rfl

theorem cstQNX_node (q : QN) : ∃ b, cstQN q = .node N.qname b ∧ absQ b = q := by
  obtain ⟨pre, loc⟩ := q
  cases pre with
  | none => exact ⟨cstNc loc, rfl, by simp [absQ, absQName, cstNcX_eq, CST.kidsL, ncBodyX_kidsL, ncBodyX_flatten]⟩
  | some p =>
    exact ⟨.node N.prefixed_name (.seq [cstNc p, .seq [.leaf [':'], cstNc loc]]), rfl,
      by simp [absQ, absQName, cstNcX_eq, CST.kidsL, kidsLL, ncBodyX_flatten]⟩

def litBody (q : Char) (s : Str) : CST := .seq [.leaf [q], .leaf s, .leaf [q]]
theorem cstLit_eq (q : Char) (s : Str) : cstLit q s = .node N.literal (litBody q s) := rfl

theorem absLiteral_lit (q : Char) (s : Str) : absLiteral (litBody q s) = s := by
  simp [absLiteral, litBody, CST.flatten, flattenL]

theorem cstNum_node {s : Str} (h : okNumber s = true) : ∃ nb, cstNum s = .node N.number nb ∧ nb.flatten = s := by
  obtain ⟨a, _, ⟨_, rfl, e⟩ | ⟨r, _, _, rfl, e⟩⟩ := okNumber_cases h
  · exact ⟨_, e, by simp [CST.flatten, flattenL]⟩
  · rw [e]
    by_cases hae : a = []
    · subst hae; exact ⟨_, rfl, by simp [CST.flatten, flattenL]⟩
    · simp only [numCst, hae, if_false]; exact ⟨_, rfl, by simp [CST.flatten, flattenL]⟩

def testBody (t : CTest) : CST := nodeBody (cstTest t)

theorem cstTest_eq (t : CTest) : cstTest t = .node N.node_test (testBody t) := by cases t <;> rfl

theorem absNodeTest_cst (t : CTest) (h : okTest t = true) : absNodeTest (testBody t) = t.erase := by
  have hl : sigToks (.leaf ['(']) = [.leaf ['(']] := sig_tok rfl
  have hr : sigToks (.leaf [')']) = [.leaf [')']] := sig_tok rfl
  cases t with
  | star =>
    have h1 : sigToks (.leaf ['*']) = [.leaf ['*']] := sig_tok rfl
    simp [testBody, nodeBody, cstTest, absNodeTest, sig_node, absNameTest, h1, CTest.erase]
  | nsStar p =>
    have h1 : sigToks (.leaf [':', '*']) = [.leaf [':', '*']] := sig_tok rfl
    simp [testBody, nodeBody, cstTest, absNodeTest, sig_node, absNameTest, sig_seq_cons, sig_seq_nil, cstNcX_eq, h1, ncBodyX_flatten, CTest.erase]
  | name q =>
    obtain ⟨b, hb, hq⟩ := cstQNX_node q
    simp [testBody, nodeBody, cstTest, absNodeTest, sig_node, absNameTest, hb, hq, CTest.erase]
  | typeTest t w1 w2 =>
    simp only [okTest, Bool.and_eq_true] at h
    have hts : sigToks (testBody (.typeTest t w1 w2)) = [.node N.node_type (.leaf (typeText t)), .leaf ['('], .leaf [')']] := by
      simp [testBody, nodeBody, cstTest, sig_seq_cons, sig_seq_nil, sig_node, sig_leaf_ws h.1, sig_leaf_ws h.2, hl, hr]
    simp only [absNodeTest, hts]
    cases t <;> rfl
  | piLit w1 w2 q s w3 =>
    obtain ⟨h1, h2, _, _, h3⟩ := okTest_piLit.mp h
    have ht : sigToks (.leaf (typeText .pi)) = [.leaf (typeText .pi)] := sig_tok rfl
    have hts : sigToks (testBody (.piLit w1 w2 q s w3)) = [.leaf (typeText .pi), .leaf ['('], .node N.literal (litBody q s), .leaf [')']] := by
      simp [testBody, nodeBody, cstTest, sig_seq_cons, sig_seq_nil, sig_node, sig_leaf_ws h1, sig_leaf_ws h2, sig_leaf_ws h3, hl, hr, ht, cstLit_eq]
    simp [absNodeTest, hts, List.findSome?, N.literal, absLiteral_lit, CTest.erase]

def axisBody (a : CAxis) : CST := nodeBody (cstAxis a)

theorem cstAxis_eq (a : CAxis) : cstAxis a = .node N.axis_specifier (axisBody a) := by cases a <;> rfl

theorem axisOfStr_text (a : Axis) : axisOfStr (axisText a) = a := by cases a <;> rfl

end XmlRs.XLex
