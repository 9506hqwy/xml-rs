import XmlRsModel.Lemmas.DomStep
/-! The document node keeps at most one document element and at most one document type. -/
namespace XmlRs.Dom
open List

def isElemK : Kind → Bool | .elem _ => true | _ => false
def isDoctypeK : Kind → Bool | .doctype _ => true | _ => false

/-- what the top level of a tree looks like from outside: ids and kinds of the children -/
def sig (l : List Node) : List (Nat × Kind) := l.map fun n => (n.id, n.kind)

def cntK (P : Kind → Bool) (l : List Node) : Nat := (sig l).countP (fun p => P p.2)

theorem sig_cons (n : Node) (r : List Node) : sig (n :: r) = (n.id, n.kind) :: sig r := rfl

theorem cntK_nil (P : Kind → Bool) : cntK P [] = 0 := rfl
theorem cntK_cons (P : Kind → Bool) (n : Node) (r : List Node) :
    cntK P (n :: r) = (if P n.kind then 1 else 0) + cntK P r := by
  simp only [cntK, sig, List.map_cons, List.countP_cons]; omega
theorem cntK_append (P : Kind → Bool) (a b : List Node) : cntK P (a ++ b) = cntK P a + cntK P b := by
  simp [cntK, sig, List.countP_append]

theorem cntK_le_of_sublist (P : Kind → Bool) {a b : List Node} (h : (sig a).Sublist (sig b)) : cntK P a ≤ cntK P b :=
  h.countP_le

/-- a function on nodes that changes neither the id nor the kind of the node it is applied to -/
def KeepsIdKind (f : Node → Node) : Prop := ∀ n, (f n).id = n.id ∧ (f n).kind = n.kind

theorem keeps_mapKids (g : List Node → List Node) : KeepsIdKind (Node.mapKids g) := by
  intro n; cases n; exact ⟨rfl, rfl⟩
theorem keeps_mapAttrs (g : List Node → List Node) : KeepsIdKind (Node.mapAttrs g) := by
  intro n; cases n; exact ⟨rfl, rfl⟩
theorem keeps_withData (d : Str) : KeepsIdKind (Node.withData d) := by
  intro n; cases n; exact ⟨rfl, rfl⟩

theorem updateIn_idKind (i : Nat) (f : Node → Node) (hf : KeepsIdKind f) (t : Node) :
    (updateIn i f t).id = t.id ∧ (updateIn i f t).kind = t.kind := by
  cases t with
  | mk j k d as ks =>
    by_cases hj : j = i
    · subst hj; rw [updateIn_mk_self]; exact hf _
    · rw [updateIn_mk_ne hj]; exact ⟨rfl, rfl⟩

theorem updateInL_sig (i : Nat) (f : Node → Node) (hf : KeepsIdKind f) (l : List Node) : sig (updateInL i f l) = sig l := by
  induction l with
  | nil => rfl
  | cons n r ih =>
    have h := updateIn_idKind i f hf n
    rw [updateInL_cons, sig_cons, sig_cons, h.1, h.2, ih]

theorem removeInL_sig (i : Nat) (l : List Node) : (sig (removeInL i l).1).Sublist (sig l) := by
  induction l with
  | nil => rw [removeInL_nil]; exact .refl _
  | cons n r ih =>
    by_cases h : (n.id == i) = true
    · rw [removeInL_hit h]; exact sublist_cons_self _ _
    · cases hr : removeIn i n with
      | mk n' x =>
        cases x with
        | some y =>
          have := removeIn_idKind i n
          rw [hr] at this
          rw [removeInL_in h hr, sig_cons, sig_cons, this.1, this.2]; exact .refl _
        | none => rw [removeInL_out h hr]; exact ih.cons_cons _

theorem removeIn_kids_sig (i : Nat) (t : Node) : (sig (removeIn i t).1.kids).Sublist (sig t.kids) := by
  cases t with
  | mk j k d as ks =>
    cases h : removeInL i as with
    | mk as' x =>
      cases x with
      | some y => rw [removeIn_attr h]; exact .refl _
      | none => rw [removeIn_kid h]; exact removeInL_sig i ks
/-- "the top level of the document only shrinks" -/
def TopLe (s s' : St) : Prop :=
  s'.doc.id = s.doc.id ∧ s'.doc.kind = s.doc.kind ∧ (sig s'.doc.kids).Sublist (sig s.doc.kids)

theorem TopLe.refl (s : St) : TopLe s s := ⟨rfl, rfl, List.Sublist.refl _⟩
theorem TopLe.trans {a b c : St} (h1 : TopLe a b) (h2 : TopLe b c) : TopLe a c :=
  ⟨h2.1.trans h1.1, h2.2.1.trans h1.2.1, h2.2.2.trans h1.2.2⟩

/-- the document node is the document, with at most one element and one document type below it -/
def DocInv (s : St) : Prop :=
  s.doc.kind = .doc ∧ cntK isElemK s.doc.kids ≤ 1 ∧ cntK isDoctypeK s.doc.kids ≤ 1

theorem DocInv.of_topLe {s s' : St} (h : DocInv s) (t : TopLe s s') : DocInv s' :=
  ⟨t.2.1.trans h.1, Nat.le_trans (cntK_le_of_sublist _ t.2.2) h.2.1, Nat.le_trans (cntK_le_of_sublist _ t.2.2) h.2.2⟩

theorem DocInv.same_doc {s s' : St} (h : DocInv s) (e : s'.doc = s.doc) : DocInv s' := by
  unfold DocInv; rw [e]; exact h

theorem detach_topLe {s s1 : St} {i : Nat} {x : Option Node} (h : s.detach i = (s1, x)) : TopLe s s1 := by
  rcases detach_cases h with ⟨_, _, rfl, _⟩ | ⟨d', n, hR, rfl, _⟩ | ⟨_, _, _, _, rfl⟩
  · exact TopLe.refl s
  · have h1 := removeIn_idKind i s.doc
    have h2 := removeIn_kids_sig i s.doc
    rw [hR] at h1 h2
    exact ⟨h1.1, h1.2, h2⟩
  · exact TopLe.refl s

theorem update_doc (s : St) (f : Node → Node) : (s.update s.doc.id f).doc = f s.doc := updateIn_root f s.doc

/-- an update somewhere below the document node, or one at the document node that keeps the child list -/
theorem update_topLe (s : St) (i : Nat) (f : Node → Node) (hf : KeepsIdKind f)
    (hdoc : i = s.doc.id → sig (f s.doc).kids = sig s.doc.kids) : TopLe s (s.update i f) := by
  have hk := updateIn_idKind i f hf s.doc
  refine ⟨hk.1, hk.2, ?_⟩
  by_cases hi : i = s.doc.id
  · rw [hi, update_doc, hdoc hi]; exact .refl _
  · show (sig (updateIn i f s.doc).kids).Sublist _
    cases hs : s.doc with
    | mk j k d as ks =>
      rw [hs] at hi
      rw [updateIn_mk_ne (j := j) (Ne.symm hi), Node.kids, updateInL_sig i f hf ks]; exact .refl _

theorem kids_mapAttrs (g : List Node → List Node) (n : Node) : (n.mapAttrs g).kids = n.kids := by cases n; rfl
theorem kids_withData (d : Str) (n : Node) : (n.withData d).kids = n.kids := by cases n; rfl

theorem update_attrs_topLe (s : St) (e : Nat) (g : List Node → List Node) : TopLe s (s.update e (Node.mapAttrs g)) :=
  update_topLe s e _ (keeps_mapAttrs g) (fun _ => by rw [kids_mapAttrs])

theorem update_data_topLe (s : St) (n : Nat) (d : Str) : TopLe s (s.update n (Node.withData d)) :=
  update_topLe s n _ (keeps_withData d) (fun _ => by rw [kids_withData])

/-- a new child list: only where the document node itself receives it is there anything to show -/
theorem DocInv.update_mapKids {s : St} (hd : DocInv s) (p : Nat) (g : List Node → List Node)
    (hg : p = s.doc.id → cntK isElemK (g s.doc.kids) ≤ 1 ∧ cntK isDoctypeK (g s.doc.kids) ≤ 1) :
    DocInv (s.update p (Node.mapKids g)) := by
  by_cases hpd : p = s.doc.id
  · unfold DocInv
    rw [hpd, update_doc, (keeps_mapKids g _).2, kids_mapKids]
    exact ⟨hd.1, hg hpd⟩
  · exact hd.of_topLe (update_topLe s p _ (keeps_mapKids g) fun h => absurd h hpd)

theorem find_doc (s : St) : s.find s.doc.id = some s.doc := by
  unfold St.find; rw [roots_eq, findInL_cons, findIn_root]; rfl

theorem cntK_insertBeforeL (P : Kind → Bool) (x : Node) (ref : Option Nat) (l : List Node) :
    cntK P (insertBeforeL x ref l) = cntK P l + (if P x.kind then 1 else 0) := by
  obtain ⟨p, q, rfl, h⟩ := insertBeforeL_split x ref l
  rw [h, cntK_append, cntK_append, cntK_cons]; omega

theorem cntK_splitPlace (P : Kind → Bool) (n : Nat) (new : Node) (ks : List Node) :
    cntK P (splitPlace n new ks) = cntK P ks + (if P new.kind then 1 else 0) := by
  obtain ⟨p, q, rfl, h⟩ := splitPlace_split n new ks
  rw [h, cntK_append, cntK_append, cntK_cons]; omega

theorem sig_mem_cnt (l : List Node) (i : Nat) (k : Kind) (h : (i, k) ∈ sig l) : 0 < cntL i l := by
  induction l with
  | nil => simp [sig] at h
  | cons n r ih =>
    simp only [sig, List.map_cons, List.mem_cons, Prod.mk.injEq] at h
    rw [cntL_cons]
    rcases h with ⟨h1, _⟩ | h
    · have := cnt_id_pos n; rw [← h1] at this; omega
    · have := ih (by simpa [sig] using h); omega

theorem cntK_zero_of (P : Kind → Bool) (l : List Node) (h : ∀ p ∈ sig l, P p.2 = false) : cntK P l = 0 := by
  unfold cntK
  rw [List.countP_eq_zero]
  intro p hp
  simp [h p hp]

theorem cntK_zero_of_any (P : Kind → Bool) (l : List Node) (h : l.any (fun k => P k.kind) = false) : cntK P l = 0 := by
  apply cntK_zero_of
  intro p hp
  simp only [sig, List.mem_map] at hp
  obtain ⟨n, hn, rfl⟩ := hp
  have := List.any_eq_false.mp h n hn
  simpa using this

/-- what the document node's check leaves through: a document element only where every element child is the node
    itself, a document type only where there is none -/
theorem docAccepts_elem {pn : Node} {ck : Kind} {c : Nat} {r : Option Nat} (h : docRefuses pn ck c r = false)
    (hd : pn.kind = .doc) (he : isElemK ck = true) : ∀ k ∈ pn.kids, isElemK k.kind = true → k.id = c := by
  intro k hk hke
  unfold docRefuses at h
  cases ck with
  | elem nm =>
    simp only [hd, beq_self_eq_true, Bool.true_and, Bool.or_eq_false_iff] at h
    have := List.any_eq_false.mp h.1 k hk
    cases hkk : k.kind with
    | elem nm2 => rw [hkk] at this; simpa using this
    | _ => rw [hkk] at hke; cases hke
  | _ => cases he

theorem docAccepts_doctype {pn : Node} {ck : Kind} {c : Nat} {r : Option Nat} (h : docRefuses pn ck c r = false)
    (hd : pn.kind = .doc) (he : isDoctypeK ck = true) : cntK isDoctypeK pn.kids = 0 := by
  unfold docRefuses at h
  cases ck with
  | doctype nm =>
    simp only [hd, beq_self_eq_true, Bool.true_and, Bool.or_eq_false_iff] at h
    apply cntK_zero_of_any
    have hfun : (fun k : Node => isDoctypeK k.kind) = (fun k => match k.kind with | .doctype _ => true | _ => false) := by
      funext k; cases k.kind <;> rfl
    rw [hfun]; exact h.1
  | _ => cases he

theorem insert_docInv {s : St} {p c : Nat} {ref : Option Nat} {pn cn : Node} {s1 : St} {x : Node}
    (hins : Inserts s p c ref pn cn s1 x) (hi : Inv s) (hd : DocInv s) :
    DocInv (s1.update p (Node.mapKids (insertBeforeL x (adjustRef pn c ref)))) := by
  obtain ⟨rfl, _, _⟩ := hins.taken hi
  have ht := detach_topLe hins.detached
  have hd1 : DocInv s1 := hd.of_topLe ht
  refine hd1.update_mapKids p _ fun hpd => ?_
  -- the receiver is the document node
  obtain ⟨_, hid, hcnt⟩ := detach_some hi.1 hins.detached
  have hc0 : cntL c s1.roots = 0 := by
    have := hcnt c; have := hi.1 c; have h3 := cnt_id_pos cn; rw [hid] at h3; omega
  have hpn : pn = s.doc := by
    have hp := hins.parent
    rw [hpd, ht.1, find_doc] at hp
    exact (Option.some.inj hp).symm
  subst hpn
  have href := hins.docAccepts
  rw [cntK_insertBeforeL, cntK_insertBeforeL]
  constructor
  · by_cases he : isElemK cn.kind = true
    · -- no other element below the document: every element child was `c`, and `c` is out
      have hz : cntK isElemK s1.doc.kids = 0 := by
        refine cntK_zero_of _ _ fun q hq => Bool.eq_false_iff.mpr fun hqk => ?_
        have hq' := ht.2.2.subset hq
        simp only [sig, List.mem_map] at hq'
        obtain ⟨n, hn, rfl⟩ := hq'
        have hpos := sig_mem_cnt s1.doc.kids n.id n.kind hq
        rw [docAccepts_elem href hd.1 he n hn hqk] at hpos
        have := cntL_kids_le c s1.doc
        rw [cntL_roots] at hc0
        omega
      rw [hz]; split <;> omega
    · rw [if_neg he]; exact hd1.2.1
  · by_cases he : isDoctypeK cn.kind = true
    · have := docAccepts_doctype href hd.1 he
      have := cntK_le_of_sublist isDoctypeK ht.2.2
      split <;> omega
    · rw [if_neg he]; exact hd1.2.2

theorem setValue_attr_docInv {s : St} (hd : DocInv s) {n : Nat} {nn : Node} (hf : s.find n = some nn)
    {nm : Str} {sp : Bool} (hk : nn.kind = .attr nm sp) (items : List Node) (n' : Nat) :
    DocInv { (s.update n (Node.mapKids (fun _ => items))) with
              next := n', detached := (s.update n (Node.mapKids (fun _ => items))).detached ++ nn.kids } := by
  refine (hd.update_mapKids n _ fun he => ?_).same_doc rfl
  -- the document node is not an attribute
  rw [he, find_doc] at hf
  cases Option.some.inj hf
  rw [hd.1] at hk
  cases hk

theorem split_docInv (s : St) {s1 : St} (hd1 : DocInv s1) (n : Nat) {k : Kind} (hk : k = .text ∨ k = .cdata) (r : Str) (nx : Nat) :
    DocInv { (match s1.parent n with
              | some p => s1.update p (Node.mapKids (splitPlace n (Node.mk nx k r [] [])))
              | none => { s1 with detached := s1.detached ++ [Node.mk nx k r [] []] }) with next := s.next + 1 } := by
  have hP1 : isElemK k = false := by rcases hk with rfl | rfl <;> rfl
  have hP2 : isDoctypeK k = false := by rcases hk with rfl | rfl <;> rfl
  cases hp : s1.parent n with
  | none => exact hd1.same_doc rfl
  | some p =>
    refine (hd1.update_mapKids p _ fun _ => ?_).same_doc rfl
    rw [cntK_splitPlace, cntK_splitPlace, Node.kind, hP1, hP2]
    exact ⟨hd1.2.1, hd1.2.2⟩

theorem Move.docInv {n : Nat} {s s' : St} (h : Move n s s') : Inv s → DocInv s → DocInv s' := by
  induction h with
  | refl s => exact fun _ hd => hd
  | trans m1 _ ih1 ih2 => exact fun hi hd => ih2 (hi.of_grow (m1.grow hi)) (ih1 hi hd)
  | handle s x => exact fun _ hd => hd
  | fresh s _ => exact fun _ hd => hd
  | insert hins => exact fun hi hd => insert_docInv hins hi hd
  | keep hdt => exact fun _ hd => (hd.of_topLe (detach_topLe hdt)).same_doc rfl
  | miss hdt => exact fun _ hd => hd.of_topLe (detach_topLe hdt)
  | attach hdt _ _ => exact fun _ hd => hd.of_topLe ((detach_topLe hdt).trans (update_attrs_topLe _ _ _))
  | newAttr s e _ _ => exact fun _ hd => (hd.of_topLe (update_attrs_topLe s e _)).same_doc rfl
  | newValue hf hk _ => exact fun _ hd => setValue_attr_docInv hd hf hk _ _
  | newData _ _ => exact fun _ hd => hd.of_topLe (update_data_topLe _ _ _)
  | @split s _ _ _ _ _ _ hk _ => exact fun _ hd => split_docInv s (hd.of_topLe (update_data_topLe _ _ _)) _ hk _ _
  | @normalize s e en hf =>
    intro _ hd
    have hk : KeepsIdKind (fun n => (normNode n).1) := by
      intro n; cases n with
      | mk j k d as ks => cases k <;> exact ⟨rfl, rfl⟩
    refine (hd.of_topLe (update_topLe s e (fun n => (normNode n).1) hk fun _ => ?_)).same_doc rfl
    have hkd := hd.1
    cases hs : s.doc with
    | mk j k d as ks =>
      rw [hs] at hkd
      cases (hkd : k = .doc)
      rfl

theorem step_docInv (s : St) (op : Op) (hi : Inv s) (hd : DocInv s) : DocInv (step s op).1 :=
  (step_moves s op).docInv hi hd

def isElemTop : TopItem → Bool | .elem _ => true | _ => false
def isDoctypeTop : TopItem → Bool | .doctype _ => true | _ => false

/-- a document as the parser delivers it: at most one document element, at most one document type -/
def OneRoot (d : IDoc) : Prop := d.kids.countP isElemTop ≤ 1 ∧ d.kids.countP isDoctypeTop ≤ 1

example : OneRoot ⟨none, none, none, [.comment [], .elem (.elem ⟨none, ['a']⟩ [] [])]⟩ := by
  constructor <;> decide

theorem buildNode_kind_elem (st : Nat) (i : Item) (h : isElemK (buildNode st i).1.kind = true) : ∃ q as ks, i = .elem q as ks := by
  cases i with
  | elem q as ks => exact ⟨q, as, ks, rfl⟩
  | _ => cases h

theorem buildTop_kinds (st : Nat) (t : TopItem) :
    (isElemK (buildTop st t).1.kind = true → isElemTop t = true) ∧
    (isDoctypeK (buildTop st t).1.kind = true → isDoctypeTop t = true) := by
  cases t with
  | elem e => exact ⟨fun _ => rfl, fun h => by cases e <;> cases h⟩
  | doctype dt => exact ⟨nofun, fun _ => rfl⟩
  | _ => exact ⟨nofun, nofun⟩

theorem buildTops_counts (st : Nat) (l : List TopItem) :
    cntK isElemK (buildTops st l).1 ≤ l.countP isElemTop ∧ cntK isDoctypeK (buildTops st l).1 ≤ l.countP isDoctypeTop := by
  induction l generalizing st with
  | nil => simp [buildTops, cntK_nil]
  | cons t r ih =>
    obtain ⟨h1, h2⟩ := ih (buildTop st t).2
    obtain ⟨k1, k2⟩ := buildTop_kinds st t
    simp only [buildTops, cntK_cons, List.countP_cons]
    constructor
    · by_cases he : isElemK (buildTop st t).1.kind = true
      · rw [if_pos he, if_pos (k1 he)]; omega
      · rw [if_neg he]; omega
    · by_cases he : isDoctypeK (buildTop st t).1.kind = true
      · rw [if_pos he, if_pos (k2 he)]; omega
      · rw [if_neg he]; omega

theorem buildSt_docInv (d : IDoc) (h : OneRoot d) : DocInv (buildSt d) := by
  obtain ⟨h1, h2⟩ := buildTops_counts 1 d.kids
  exact ⟨rfl, Nat.le_trans h1 h.1, Nat.le_trans h2 h.2⟩

end XmlRs.Dom
