import XmlRsModel.Lemmas.XRunsStep
/-! Completeness of `node_test`, and what an omitted axis needs to know about the text of the node test behind it. -/
namespace XmlRs.XLex
open XmlRs XmlRs.XPath XmlRs.Lex
open Gen.XPath

def NameCont (Z : Str) : Prop := Stops P.isNameChar Z ∧ After (· == ':') Z ∧ After (· == '(') Z

theorem nameCont_of_cont {l : Nat} (hl : l ≤ 10) {Z : Str} (h : Cont l Z) : NameCont Z :=
  ⟨h.stops_nc, h.after_colon, h.after_char hl (Nat.le_refl 10) rfl⟩

theorem nameCont_star (Z : Str) : NameCont ('*' :: Z) :=
  ⟨Stops.cons _ (by decide), .of_head (w := []) rfl (by decide) (by decide) Z, .of_head (w := []) rfl (by decide) (by decide) Z⟩

theorem name_ends_lpar {w : Str} (hw : okWs w = true) (Z : Str) : Stops P.isNameChar (w ++ '(' :: Z) ∧ After (· == ':') (w ++ '(' :: Z) :=
  ⟨.ws nc_space hw fun _ => .cons _ (by decide), .of_head hw (by decide) (by decide) Z⟩

theorem ncStart_star : ('*' != ':' && P.isNameStartChar '*') = false := by decide

def typeNames : List Str := [typeText .comment, typeText .text, typeText .pi, typeText .node]

theorem node_type_prod : env N.node_type = G.alt (typeNames.map G.tag) := rfl

theorem typeNames_okNc : ∀ t ∈ typeNames, okNc t = true := by decide
theorem typeText_mem (t : NodeType) : typeText t ∈ typeNames := by cases t <;> decide

theorem runs_node_type (t : NodeType) (Y : Str) :
    Runs env (.nt N.node_type) (typeText t ++ Y) (.ok (.node N.node_type (.leaf (typeText t))) Y) := by
  have := runs_nt_tags node_type_prod (typeText t ++ Y)
  have hf : firstLit typeNames (typeText t ++ Y) = some (typeText t, Y) := by cases t <;> rfl
  rwa [hf] at this

def cstTest : CTest → CST
  | .star => .node N.node_test (.node N.name_test (.leaf ['*']))
  | .nsStar p => .node N.node_test (.node N.name_test (.seq [cstNc p, .leaf [':', '*']]))
  | .name q => .node N.node_test (.node N.name_test (cstQN q))
  | .typeTest t w1 w2 => .node N.node_test (.seq [.node N.node_type (.leaf (typeText t)), .seq [.leaf w1, .leaf ['('], .leaf w2, .leaf [')']]])
  | .piLit w1 w2 q s w3 => .node N.node_test (.seq [.seq [.leaf (typeText .pi), .leaf w1, .leaf ['('], .leaf w2], cstLit q s, .seq [.leaf w3, .leaf [')']]])

def piHeadG : G := G.seq [G.tag (typeText .pi), G.cls0 P.isSpace, G.tag ['('], G.cls0 P.isSpace]
def parensG : G := G.seq [G.cls0 P.isSpace, G.tag ['('], G.cls0 P.isSpace, G.tag [')']]
def piAltG : G := G.seq [piHeadG, G.nt N.literal, G.seq [G.cls0 P.isSpace, G.tag [')']]]

theorem node_test_prod : env N.node_test = G.alt [piAltG, G.seq [G.nt N.node_type, parensG], G.nt N.name_test] := rfl

theorem name_test_prod : env N.name_test = G.alt [G.tag ['*'], G.seq [G.nt N.ncname, G.tag [':', '*']], G.nt N.qname] := rfl

theorem keyword_alts_fail {Nm Z : Str} (hN : Nm.all P.isNameChar = true) (hZ : NameCont Z) :
    Runs env piAltG (Nm ++ Z) .fail ∧ Runs env (G.seq [G.nt N.node_type, parensG]) (Nm ++ Z) .fail := by
  have hpar : ∀ t ∈ typeNames, ∀ U, stripPrefix t (Nm ++ Z) = some U → ∀ rest,
      RunsSeq env (G.cls0 P.isSpace :: G.tag ['('] :: rest) U .fail :=
    fun t ht U hU => kw_in_name_fails (okNc_all (typeNames_okNc t ht)) hN hZ.1 (by decide) hZ.2.2 hU []
  constructor
  · refine Runs.seq_fail_head ?_
    cases hs : stripPrefix (typeText .pi) (Nm ++ Z) with
    | none => exact Runs.seq_fail_head (Runs.tag_fail hs)
    | some U =>
      refine Runs.seq_fail (RunsSeq.fail_tail (c := .leaf (typeText .pi)) (r := U) ?_ (hpar _ (typeText_mem .pi) U hs _))
      rw [stripPrefix_some hs]; exact Runs.tag_ok _ _
  · exact kw_seq_fails node_type_prod fun t ht U hU => Runs.seq_fail (hpar t ht U hU _)

theorem runs_name_test_star (Z : Str) : Runs env (.nt N.name_test) ('*' :: Z) (.ok (.node N.name_test (.leaf ['*'])) Z) :=
  Runs.nt_of name_test_prod (Runs.alt (RunsAlt.hit (Runs.tag_ok ['*'] Z)))

theorem runs_name_test_ns {p : Str} (hp : okNc p = true) (Z : Str) :
    Runs env (.nt N.name_test) (p ++ (':' :: '*' :: Z)) (.ok (.node N.name_test (.seq [cstNc p, .leaf [':', '*']])) Z) :=
  Runs.nt_of name_test_prod (Runs.alt (RunsAlt.skip (((okNc_starts hp).append _).tag_fails ncStart_star _)
    (RunsAlt.hit (Runs.seq2 (runs_ncname hp (Stops.cons _ ncRest_colon)) (Runs.tag_ok [':', '*'] Z)))))

theorem runs_name_test_q {q : QN} (hq : okQN q = true) {Z : Str} (hZ : Stops P.isNameChar Z) :
    Runs env (.nt N.name_test) (q.text ++ Z) (.ok (.node N.name_test (cstQN q)) Z) := by
  refine Runs.nt_of name_test_prod (Runs.alt (RunsAlt.skip (((okQN_starts hq).append _).tag_fails ncStart_star _)
    (RunsAlt.skip ?_ (RunsAlt.hit (runs_qname hq hZ)))))
  -- `prefix:*` fails: behind the first NCName stands no `:`, or behind `:` a name and not `*`
  obtain ⟨pre, loc⟩ := q
  simp only [okQN, Bool.and_eq_true] at hq
  cases pre with
  | none => exact seq_fail_second (runs_ncname hq.2 (stops_ncRest_of_nameChar hZ)) (runs_tag_fail_head (stops_not_char hZ nameChar_colon))
  | some p =>
    simp only [QN.text, List.append_assoc, List.cons_append]
    exact seq_fail_second (runs_ncname hq.1 (Stops.cons _ ncRest_colon))
      (tag_fails_second _ _ (((okNc_starts hq.2).append _).stops_eq ncStart_star))

theorem runs_parens {w1 w2 : Str} (h1 : okWs w1 = true) (h2 : okWs w2 = true) (Z : Str) :
    Runs env parensG (w1 ++ ('(' :: (w2 ++ (')' :: Z)))) (.ok (.seq [.leaf w1, .leaf ['('], .leaf w2, .leaf [')']]) Z) :=
  Runs.seq (RunsSeq.cons (runs_cls0 h1 (Stops.cons _ (by decide))) (RunsSeq.cons (Runs.tag_ok ['('] _)
    (RunsSeq.cons (runs_cls0 h2 (Stops.cons _ (by decide))) (RunsSeq.cons (Runs.tag_ok [')'] Z) (RunsSeq.nil _)))))

theorem runs_piHead {w1 w2 : Str} (h1 : okWs w1 = true) (h2 : okWs w2 = true) {R : Str} (hR : Stops P.isSpace R) :
    Runs env piHeadG (typeText .pi ++ (w1 ++ ('(' :: (w2 ++ R)))) (.ok (.seq [.leaf (typeText .pi), .leaf w1, .leaf ['('], .leaf w2]) R) :=
  Runs.seq (RunsSeq.cons (Runs.tag_ok _ _) (RunsSeq.cons (runs_cls0 h1 (Stops.cons _ (by decide))) (RunsSeq.cons (Runs.tag_ok ['('] _)
    (RunsSeq.cons (runs_cls0 h2 hR) (RunsSeq.nil _)))))

theorem runs_node_test (test : CTest) (h : okTest test = true) {Z : Str} (hZ : NameCont Z) :
    Runs env (.nt N.node_test) (test.str ++ Z) (.ok (cstTest test) Z) := by
  cases test <;> refine Runs.nt_of node_test_prod (Runs.alt ?_)
  case star =>
    have hk := keyword_alts_fail (Nm := []) rfl (nameCont_star Z)
    exact RunsAlt.skip hk.1 (RunsAlt.skip hk.2 (RunsAlt.hit (runs_name_test_star Z)))
  case nsStar p =>
    have hk := keyword_alts_fail (Nm := p ++ [':']) (by simp [okNc_all h, nameChar_colon]) (nameCont_star Z)
    simp only [CTest.str, List.append_assoc, List.cons_append, List.nil_append] at hk ⊢
    exact RunsAlt.skip hk.1 (RunsAlt.skip hk.2 (RunsAlt.hit (runs_name_test_ns h Z)))
  case name q =>
    have hk := keyword_alts_fail (okQN_all h) hZ
    exact RunsAlt.skip hk.1 (RunsAlt.skip hk.2 (RunsAlt.hit (runs_name_test_q h hZ.1)))
  case typeTest t w1 w2 =>
    simp only [okTest, Bool.and_eq_true] at h
    simp only [CTest.str, List.append_assoc, List.cons_append, List.nil_append]
    refine RunsAlt.skip ?_ (RunsAlt.hit (Runs.seq2 (runs_node_type t _) (runs_parens h.1 h.2 Z)))
    -- `processing-instruction(` … but no literal
    cases t
    case pi => exact seq_fail_second (runs_piHead h.1 h.2 (Stops.cons _ (by decide))) (literal_fails (Stops.cons _ (by decide)) (Stops.cons _ (by decide)))
    all_goals exact Runs.seq_fail_head (Runs.seq_fail_head (tag_fails_ne (by decide)))
  case piLit w1 w2 q s w3 =>
    obtain ⟨h1, h2, hq, hs, h3⟩ := okTest_piLit.mp h
    simp only [CTest.str, List.append_assoc, List.cons_append, List.nil_append]
    exact RunsAlt.hit (Runs.seq3 (runs_piHead h1 h2 (Stops.cons _ (sp_of_quote hq))) (runs_literal hq hs _)
      (runs_ws_tag h3 [')'] (.cons _ (by decide))))

theorem test_starts {test : CTest} (h : okTest test = true) : Starts (fun c => ncStart c || c == '*') test.str := by
  have nm {s : Str} (hs : Starts ncStart s) : Starts (fun c => ncStart c || c == '*') s := hs.mono fun c hc => by simp [hc]
  cases test with
  | star => exact .cons _ (by decide)
  | nsStar p => exact (nm (okNc_starts h)).append _
  | name q => exact nm (okQN_starts h)
  | typeTest t w1 w2 => exact (nm (okNc_starts (typeNames_okNc _ (typeText_mem t)))).append _
  | piLit w1 w2 q s w3 => exact (nm (okNc_starts (typeNames_okNc _ (typeText_mem .pi)))).append _

theorem test_no_axis (test : CTest) (h : okTest test = true) {Z : Str} (hZ : NameCont Z) :
    Runs env (G.seq [G.nt N.axis_name, dcolon]) (test.str ++ Z) .fail := by
  have count0 {a : Str} (ha : okNc a = true) : a.count ':' = 0 := List.count_eq_zero.mpr (by simpa using okNc_no_colon ha)
  have htype (t : NodeType) : (typeText t).all P.isNameChar = true ∧ (typeText t).count ':' ≤ 1 :=
    ⟨okNc_all (typeNames_okNc _ (typeText_mem t)), by rw [count0 (typeNames_okNc _ (typeText_mem t))]; omega⟩
  cases test with
  | star => exact name_no_axis (Nm := []) rfl (Nat.zero_le _) (nameCont_star Z).1 (nameCont_star Z).2.1
  | nsStar p =>
    have := name_no_axis (Nm := p ++ [':']) (by simp [okNc_all h, nameChar_colon]) (by simp [count0 h])
      (nameCont_star Z).1 (nameCont_star Z).2.1
    simpa [CTest.str] using this
  | name q =>
    refine name_no_axis (okQN_all h) ?_ hZ.1 hZ.2.1
    obtain ⟨pre, loc⟩ := q
    simp only [okTest, okQN, Bool.and_eq_true] at h
    cases pre with
    | none => simp [CTest.str, QN.text, count0 h.2]
    | some p => simp [CTest.str, QN.text, count0 h.1, count0 h.2]
  | typeTest t w1 w2 =>
    simp only [okTest, Bool.and_eq_true] at h
    have := name_no_axis (htype t).1 (htype t).2 (name_ends_lpar h.1 (w2 ++ ')' :: Z)).1 (name_ends_lpar h.1 _).2
    simpa [CTest.str] using this
  | piLit w1 w2 q s w3 =>
    have h1 := (okTest_piLit.mp h).1
    have := name_no_axis (htype .pi).1 (htype .pi).2 (name_ends_lpar h1 (w2 ++ q :: (s ++ q :: (w3 ++ ')' :: Z)))).1 (name_ends_lpar h1 _).2
    simpa [CTest.str] using this

end XmlRs.XLex
