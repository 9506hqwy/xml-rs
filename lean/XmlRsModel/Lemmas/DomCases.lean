import XmlRsModel.Dom
/-! The outcomes of `St.detach` and of the tree mutators, each stated once: a call either is refused and returns the
    state it was given, or passes every guard and does its one piece of surgery.  `step_does` (Lemmas/DomMoves) and the
    effect theorems argue from these case lemmas; nothing else unfolds the cascades of checks.
    The checks are walked with `by_cases` and `if_pos` / `if_neg`: `split` on these cascades is slower by orders of
    magnitude. -/
namespace XmlRs.Dom

/-- the three places `detach` looks in, in its order: among the detached roots, inside the document tree, inside the
    detached trees (where a miss leaves `x = none`) -/
theorem detach_cases {s s1 : St} {i : Nat} {x : Option Node} (h : s.detach i = (s1, x)) :
    (∃ n, s.detached.find? (·.id == i) = some n ∧ s1 = { s with detached := s.detached.filter (·.id != i) } ∧ x = some n) ∨
    (∃ d' n, removeIn i s.doc = (d', some n) ∧ s1 = { s with doc := d' } ∧ x = some n) ∨
    (∃ d' det', removeIn i s.doc = (d', none) ∧ removeInL i s.detached = (det', x) ∧ s1 = { s with detached := det' }) := by
  unfold St.detach at h
  split at h
  · next n hF => cases h; exact .inl ⟨n, hF, rfl, rfl⟩
  · split at h
    · next d' n hR => cases h; exact .inr (.inl ⟨d', n, hR, rfl, rfl⟩)
    · next d' hR =>
      split at h
      next det' y hD => cases h; exact .inr (.inr ⟨d', det', hR, hD, rfl⟩)

theorem detach_next {s s' : St} {i : Nat} {x : Option Node} (h : s.detach i = (s', x)) : s'.next = s.next := by
  rcases detach_cases h with ⟨_, _, rfl, _⟩ | ⟨_, _, _, rfl, _⟩ | ⟨_, _, _, _, rfl⟩ <;> rfl

theorem detach_handles {s s' : St} {i : Nat} {x : Option Node} (h : s.detach i = (s', x)) : s'.handles = s.handles := by
  rcases detach_cases h with ⟨_, _, rfl, _⟩ | ⟨_, _, _, rfl, _⟩ | ⟨_, _, _, _, rfl⟩ <;> rfl

/-- what a successful `insertChild s p c ref` has checked, in the order of the checks: `pn` is the receiver and `cn`
    the new child as found in `s`; taking `c` out gave the state `s1` and the node `x` -/
structure Inserts (s : St) (p c : Nat) (ref : Option Nat) (pn cn : Node) (s1 : St) (x : Node) : Prop where
  parent : s.find p = some pn
  child : s.find c = some cn
  receives : canHaveChildren pn.kind = true
  notDoc : (c == s.doc.id) = false
  refNotDoc : (ref == some s.doc.id) = false
  refFound : refMissing pn ref = false
  noCycle : s.isAncestorOrSelf c p = false
  allowed : childAllowed pn.kind cn.kind = true
  docAccepts : docRefuses pn cn.kind c (adjustRef pn c ref) = false
  detached : s.detach c = (s1, some x)
  shallow : tooDeep s1 pn x = false

theorem insertChild_cases (s : St) (p c : Nat) (ref : Option Nat) :
    (∃ e, insertChild s p c ref = (s, .err e)) ∨
    ∃ pn cn s1 x, Inserts s p c ref pn cn s1 x ∧
      insertChild s p c ref = (s1.update p (Node.mapKids (insertBeforeL x (adjustRef pn c ref))), .node c) := by
  unfold insertChild
  split
  case h_2 => exact .inl ⟨_, rfl⟩
  next pn cn hp hc =>
  by_cases h1 : (!canHaveChildren pn.kind) = true
  · exact .inl ⟨_, if_pos h1⟩
  rw [if_neg h1]
  by_cases h2 : (c == s.doc.id) = true
  · exact .inl ⟨_, if_pos h2⟩
  rw [if_neg h2]
  by_cases h3 : (ref == some s.doc.id) = true
  · exact .inl ⟨_, if_pos h3⟩
  rw [if_neg h3]
  by_cases h4 : refMissing pn ref = true
  · exact .inl ⟨_, if_pos h4⟩
  rw [if_neg h4]
  by_cases h5 : s.isAncestorOrSelf c p = true
  · exact .inl ⟨_, if_pos h5⟩
  rw [if_neg h5]
  by_cases h6 : (!childAllowed pn.kind cn.kind) = true
  · exact .inl ⟨_, if_pos h6⟩
  rw [if_neg h6]
  by_cases h7 : docRefuses pn cn.kind c (adjustRef pn c ref) = true
  · exact .inl ⟨_, if_pos h7⟩
  rw [if_neg h7]
  cases hd : s.detach c with
  | mk s1 x =>
  cases x with
  | none => exact .inl ⟨_, rfl⟩
  | some x =>
    by_cases h8 : tooDeep s1 pn x = true
    · exact .inl ⟨_, if_pos h8⟩
    · exact .inr ⟨pn, cn, s1, x, ⟨hp, hc, by simpa using h1, by simpa using h2, by simpa using h3, by simpa using h4,
        by simpa using h5, by simpa using h6, by simpa using h7, hd, by simpa using h8⟩, if_neg h8⟩

theorem insertChild_ok {s s' : St} {p c c' : Nat} {ref : Option Nat} (h : insertChild s p c ref = (s', .node c')) :
    ∃ pn cn s1 x, Inserts s p c ref pn cn s1 x ∧
      s' = s1.update p (Node.mapKids (insertBeforeL x (adjustRef pn c ref))) := by
  rcases insertChild_cases s p c ref with ⟨e, he⟩ | ⟨pn, cn, s1, x, hi, heq⟩
  · rw [he] at h; cases h
  · rw [heq] at h; exact ⟨pn, cn, s1, x, hi, (Prod.mk.inj h).1.symm⟩

/-- `insertChild` answers with the node or with an exception, and a refused call returns the state it was given -/
theorem insertChild_refused {s s' : St} {p c : Nat} {ref : Option Nat} {r : Res} (h : insertChild s p c ref = (s', r))
    (hr : ∀ i, r ≠ .node i) : s' = s ∧ ∃ e, r = .err e := by
  rcases insertChild_cases s p c ref with ⟨e, he⟩ | ⟨_, _, _, _, _, heq⟩
  · rw [he] at h; cases h; exact ⟨rfl, e, rfl⟩
  · rw [heq] at h; cases h; exact absurd rfl (hr c)

theorem removeChild_cases (s : St) (p c : Nat) :
    (∃ e, removeChild s p c = (s, .err e)) ∨
    ∃ pn s1 x, s.find p = some pn ∧ (c == s.doc.id) = false ∧ pn.kids.any (·.id == c) = true ∧
      s.detach c = (s1, some x) ∧ removeChild s p c = ({ s1 with detached := s1.detached ++ [x] }, .node c) := by
  unfold removeChild
  split
  case h_2 => exact .inl ⟨_, rfl⟩
  next pn hp =>
  by_cases h1 : (!canHaveChildren pn.kind) = true
  · exact .inl ⟨_, if_pos h1⟩
  rw [if_neg h1]
  by_cases h2 : (c == s.doc.id) = true
  · exact .inl ⟨_, if_pos h2⟩
  rw [if_neg h2]
  by_cases h3 : (!(pn.kids.any (·.id == c))) = true
  · exact .inl ⟨_, if_pos h3⟩
  rw [if_neg h3]
  cases hd : s.detach c with
  | mk s1 x =>
  cases x with
  | none => exact .inl ⟨_, rfl⟩
  | some x => exact .inr ⟨pn, s1, x, hp, by simpa using h2, by simpa using h3, rfl, rfl⟩

theorem removeChild_ok {s s' : St} {p c c' : Nat} (h : removeChild s p c = (s', .node c')) :
    ∃ pn s1 x, s.find p = some pn ∧ (c == s.doc.id) = false ∧ pn.kids.any (·.id == c) = true ∧
      s.detach c = (s1, some x) ∧ s' = { s1 with detached := s1.detached ++ [x] } := by
  rcases removeChild_cases s p c with ⟨e, he⟩ | ⟨pn, s1, x, hp, hdoc, hany, hd, heq⟩
  · rw [he] at h; cases h
  · rw [heq] at h; exact ⟨pn, s1, x, hp, hdoc, hany, hd, (Prod.mk.inj h).1.symm⟩

theorem dataOp_cases (s : St) (n : Nat) (f : Str → Option Str) :
    (∃ e, step.dataOp s n f = (s, .err e)) ∨
    ∃ nn d, s.find n = some nn ∧ f nn.data = some d ∧ validData nn.kind d = true ∧
      step.dataOp s n f = (s.update n (Node.withData (match nn.kind with | .pi _ => storedPIData d | _ => d)), .ok) := by
  unfold step.dataOp
  split
  case h_2 => exact .inl ⟨_, rfl⟩
  next nn hn =>
  -- (the condition holds a `match` of its own, which `split` and `by_cases` would have to spell out)
  refine dite _ (fun h1 => ?_) (fun h1 => .inl ⟨_, if_neg h1⟩)
  rw [if_pos h1]
  split
  case h_1 => exact .inl ⟨_, rfl⟩
  next d hf =>
  by_cases h2 : validData nn.kind d = true
  · exact .inr ⟨nn, d, hn, hf, h2, if_pos h2⟩
  · exact .inl ⟨_, if_neg h2⟩

theorem dataOp_ok {s s' : St} {n : Nat} {f : Str → Option Str} (h : step.dataOp s n f = (s', .ok)) :
    ∃ nn d, s.find n = some nn ∧ f nn.data = some d ∧ validData nn.kind d = true ∧
      s' = s.update n (Node.withData (match nn.kind with | .pi _ => storedPIData d | _ => d)) := by
  rcases dataOp_cases s n f with ⟨e, he⟩ | ⟨nn, d, hn, hf, hv, heq⟩
  · rw [he] at h; cases h
  · rw [heq] at h; exact ⟨nn, d, hn, hf, hv, (Prod.mk.inj h).1.symm⟩

theorem dataOp_refused {s s' : St} {n : Nat} {f : Str → Option Str} {e : Exc} (h : step.dataOp s n f = (s', .err e)) :
    s' = s := by
  rcases dataOp_cases s n f with ⟨e, he⟩ | ⟨_, _, _, _, _, heq⟩
  · rw [he] at h; exact (Prod.mk.inj h).1.symm
  · rw [heq] at h; cases h

/-- `replaceChild` is refused and returns the state it was given, or is a successful `insertBefore` of the node in front
    of itself, or a successful `removeChild` of `old` followed by a successful `insertBefore` of `new` in front of the
    node that followed `old` -/
theorem replaceChild_cases (s : St) (p new old : Nat) :
    (∃ e, step s (.replaceChild p new old) = (s, .err e)) ∨
    (∃ s' c, new = old ∧ insertChild s p new (some old) = (s', .node c) ∧
      step s (.replaceChild p new old) = (s', .node old)) ∨
    (∃ pn s1 c1 s2 c2, new ≠ old ∧ s.find p = some pn ∧ removeChild s p old = (s1, .node c1) ∧
      insertChild s1 p new ((((pn.kids.dropWhile (·.id != old)).drop 1).filter (·.id != new)).head?.map (·.id)) =
        (s2, .node c2) ∧
      step s (.replaceChild p new old) = (s2, .node old)) := by
  simp only [step]
  cases hp : s.find p with
  | none => exact .inl ⟨_, rfl⟩
  | some pn =>
    simp only
    by_cases hno : (new == old) = true
    · rw [if_pos hno]
      rcases insertChild_cases s p new (some old) with ⟨e, he⟩ | ⟨_, _, _, _, _, he⟩ <;> rw [he]
      · exact .inl ⟨e, rfl⟩
      · exact .inr (.inl ⟨_, _, beq_iff_eq.mp hno, rfl, rfl⟩)
    · rw [if_neg hno]
      rcases removeChild_cases s p old with ⟨e, he⟩ | ⟨_, s1, x, _, _, _, _, he⟩ <;> rw [he]
      · exact .inl ⟨e, rfl⟩
      · simp only
        rcases insertChild_cases { s1 with detached := s1.detached ++ [x] } p new
          ((((pn.kids.dropWhile (·.id != old)).drop 1).filter (·.id != new)).head?.map (·.id))
          with ⟨e, he2⟩ | ⟨_, _, _, _, _, he2⟩ <;> rw [he2]
        · exact .inl ⟨e, rfl⟩
        · exact .inr (.inr ⟨pn, _, _, _, _, by simpa using hno, rfl, rfl, he2, rfl⟩)

/-! ### the factories -/
/-- what every factory does once its argument is checked (`v`): the node is made and a reference to it handed out, or the
    slot is taken all the same, by `none`, and the answer is the failure `r` -/
def factory (s : St) (v : Bool) (k : Kind) (d : Str) (r : Res) : St × Res :=
  if v then ({ (s.fresh k d).1 with handles := (s.fresh k d).1.handles ++ [some s.next] }, .node s.next)
  else ({ s with handles := s.handles ++ [none] }, r)

theorem step_createElement (s : St) (name : Str) :
    step s (.createElement name) = factory s (validQName name) (.elem name) [] (.err .invalidChar) := rfl
theorem step_createText (s : St) (d : Str) : step s (.createText d) = factory s (validText d) .text d .panic := rfl
theorem step_createComment (s : St) (d : Str) : step s (.createComment d) = factory s (validComment d) .comment d .panic := rfl
theorem step_createCData (s : St) (d : Str) : step s (.createCData d) = factory s (validCData d) .cdata d .panic := rfl
theorem step_createPI (s : St) (t d : Str) :
    step s (.createPI t d) = factory s (validPITarget t && validPI t d) (.pi t) (storedPIData d) (.err .invalidChar) := rfl
theorem step_createAttribute (s : St) (name : Str) :
    step s (.createAttribute name) = factory s (validQName name) (.attr name true) [] (.err .invalidChar) := rfl
theorem step_createEntityRef (s : St) (name : Str) :
    step s (.createEntityRef name) =
      if validName name then factory s (predefined.find? (·.1 == name)).isSome (.ref name) [] (.err .invalid)
      else factory s false (.ref name) [] (.err .invalidChar) := by
  cases h : validName name <;> simp only [step, h] <;> rfl

end XmlRs.Dom
