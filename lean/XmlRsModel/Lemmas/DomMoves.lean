import XmlRsModel.Lemmas.DomCases
import XmlRsModel.Lemmas.DomForest
/-! What a call of `step` does to the state, whatever the operation: nothing, or a short sequence of moves of eleven
    kinds: nine kinds of surgery on the trees, each with the facts its guards established; a reference handed out; a
    miss.  `step_does` is the walk through all 25 branches of `step`: the moves, and that an answer reporting a failure
    comes with the trees untouched (the effect theorems of C13 unfold `step` at their one operation only).  The
    invariants of the model (`Inv`, `DocInv`, `HeightInv`, `ValidInv`) are each proved for the moves and so hold for
    every operation, and the handle table after a call is read off the moves (`Move.handles`). -/
namespace XmlRs.Dom

/-- kind and data of the nodes the factories make, as validated -/
inductive Creatable : Kind → Str → Prop
  | elem {n : Str} : validQName n = true → Creatable (.elem n) []
  | text {d : Str} : validText d = true → Creatable .text d
  | comment {d : Str} : validComment d = true → Creatable .comment d
  | cdata {d : Str} : validCData d = true → Creatable .cdata d
  | pi {t d : Str} : validPITarget t = true → validPI t d = true → Creatable (.pi t) (storedPIData d)
  | attr {n : Str} : validQName n = true → Creatable (.attr n true) []
  | ref {n : Str} : validName n = true → (predefined.find? (·.1 == n)).isSome = true → Creatable (.ref n) []

/-- `Move n s s'`: `s'` comes from `s` by surgery on the trees, with `n` references handed out on the way -/
inductive Move : Nat → St → St → Prop
  | refl (s : St) : Move 0 s s
  | trans {m n : Nat} {a b c : St} : Move m a b → Move n b c → Move (m + n) a c
  /-- a reference is handed out: the next slot of the handle table is taken, whatever is put there -/
  | handle (s : St) (x : Option Nat) : Move 1 s { s with handles := s.handles ++ [x] }
  | fresh (s : St) {k : Kind} {d : Str} : Creatable k d → Move 0 s (s.fresh k d).1
  /-- `insertBefore`, `appendChild`: the child is taken out of wherever it is and put among the receiver's children -/
  | insert {s : St} {p c : Nat} {ref : Option Nat} {pn cn : Node} {s1 : St} {x : Node} : Inserts s p c ref pn cn s1 x →
      Move 0 s (s1.update p (Node.mapKids (insertBeforeL x (adjustRef pn c ref))))
  /-- a node is taken out and kept as a detached tree (`removeChild`, a replaced or removed attribute) -/
  | keep {s : St} {i : Nat} {s1 : St} {x : Node} : s.detach i = (s1, some x) →
      Move 0 s { s1 with detached := s1.detached ++ [x] }
  /-- nothing to take out -/
  | miss {s : St} {i : Nat} {s1 : St} : s.detach i = (s1, none) → Move 0 s s1
  /-- `setAttributeNode`: the attribute is taken out of wherever it is and appended to the element's attributes -/
  | attach {s : St} {a e : Nat} {en : Node} {s2 : St} {x : Node} : s.detach a = (s2, some x) → en.id = e →
      tooDeep s2 en x = false → Move 0 s (s2.update e (Node.mapAttrs (· ++ [x])))
  /-- `setAttribute`: a new attribute node with fresh value items -/
  | newAttr (s : St) (e : Nat) {name v : Str} {ps : List Piece} : validQName name = true → parseAttrValue v = some ps →
      Move 0 s { (s.update e (Node.mapAttrs (· ++ [Node.mk s.next (.attr name true) [] [] (mkItems (s.next + 1) ps).1]))) with
               next := (mkItems (s.next + 1) ps).2 }
  /-- `Attr.setValue`: fresh value items; the old ones become detached trees -/
  | newValue {s : St} {n : Nat} {nn : Node} {nm : Str} {sp : Bool} {v : Str} {ps : List Piece} : s.find n = some nn →
      nn.kind = .attr nm sp → parseAttrValue v = some ps →
      Move 0 s { (s.update n (Node.mapKids (fun _ => (mkItems s.next ps).1))) with
               next := (mkItems s.next ps).2,
               detached := (s.update n (Node.mapKids (fun _ => (mkItems s.next ps).1))).detached ++ nn.kids }
  /-- the CharacterData mutators and `setValue` on such a node: new data that passed the check of the node's kind -/
  | newData {s : St} {n : Nat} {nn : Node} {d : Str} : s.find n = some nn → validData nn.kind d = true →
      Move 0 s (s.update n (Node.withData (match nn.kind with | .pi _ => storedPIData d | _ => d)))
  /-- `splitText`: the node keeps the first part; a new node with the second part follows it (or is detached like it) -/
  | split {s : St} {n off : Nat} {nn : Node} {l r : Str} : s.find n = some nn → (nn.kind = .text ∨ nn.kind = .cdata) →
      CharData.splitText nn.data off = some (l, r) →
      Move 1 s { (match (s.update n (Node.withData l)).parent n with
                | some p => (s.update n (Node.withData l)).update p (Node.mapKids fun ks =>
                    match (ks.dropWhile (fun k : Node => k.id != n)).drop 1 with
                    | nx :: _ => insertBeforeL (Node.mk s.next nn.kind r [] []) (some nx.id) ks
                    | [] => ks ++ [Node.mk s.next nn.kind r [] []])
                | none => { (s.update n (Node.withData l)) with
                            detached := (s.update n (Node.withData l)).detached ++ [Node.mk s.next nn.kind r [] []] }) with
               next := s.next + 1, handles := s.handles ++ [some s.next] }
  | normalize {s : St} {e : Nat} {en : Node} : s.find e = some en →
      Move 0 s { (s.update e fun n => (normNode n).1) with
               detached := (s.update e fun n => (normNode n).1).detached ++ (normNode en).2 }

theorem Move.detachKeep (s : St) (i : Nat) : Move 0 s (s.detachKeep i) := by
  unfold St.detachKeep
  split
  · next h => exact .keep h
  · next h => exact .miss h

theorem Move.detachAll : ∀ (l : List Nat) (s : St), Move 0 s (s.detachAll l)
  | [], s => .refl s
  | i :: r, s => .trans (.detachKeep s i) (Move.detachAll r _)

theorem detachAll_next : ∀ (l : List Nat) (s : St), (s.detachAll l).next = s.next
  | [], _ => rfl
  | i :: r, s => by
    refine (detachAll_next r _).trans ?_
    unfold St.detachKeep
    split <;> exact (detach_next ‹_ = _› :)

/-- an answer that reports a failure: an exception, or the recorded factory panic -/
def Res.failed : Res → Prop | .err _ | .panic => True | _ => False

/-- what a call does: the moves, and a failure comes with the trees the call found -/
structure Does (n : Nat) (s : St) (o : St × Res) : Prop where
  moves : Move n s o.1
  atomic : o.2.failed → o.1.doc = s.doc ∧ o.1.detached = s.detached

/-- an answer, of whatever kind, with the state as it was -/
theorem Does.nothing (s : St) (r : Res) : Does 0 s (s, r) := ⟨.refl s, fun _ => ⟨rfl, rfl⟩⟩

/-- an answer, of whatever kind, and a slot of the handle table -/
theorem Does.slot (s : St) (x : Option Nat) (r : Res) : Does 1 s ({ s with handles := s.handles ++ [x] }, r) :=
  ⟨.handle s x, fun _ => ⟨rfl, rfl⟩⟩

theorem Move.does {n : Nat} {s s' : St} {r : Res} (h : Move n s s') (hr : ¬r.failed) : Does n s (s', r) :=
  ⟨h, fun hf => absurd hf hr⟩

/-- a factory call: the new node, then the reference to it; or the reference to nothing -/
theorem factory_does (s : St) {v : Bool} {k : Kind} {d : Str} (r : Res) (h : v = true → Creatable k d) :
    Does 1 s (factory s v k d r) := by
  unfold factory
  split
  · next hv => exact (Move.trans (.fresh s (h hv)) (.handle _ _)).does nofun
  · exact .slot s _ _

theorem insertChild_does {s s' : St} {p c : Nat} {ref : Option Nat} {r : Res} (h : insertChild s p c ref = (s', r)) :
    Does 0 s (s', r) := by
  rcases insertChild_cases s p c ref with ⟨e, he⟩ | ⟨_, _, _, _, hins, he⟩ <;> cases he.symm.trans h
  · exact .nothing s _
  · exact (Move.insert hins).does nofun

theorem removeChild_does {s s' : St} {p c : Nat} {r : Res} (h : removeChild s p c = (s', r)) : Does 0 s (s', r) := by
  rcases removeChild_cases s p c with ⟨e, he⟩ | ⟨_, _, _, _, _, _, hd, he⟩ <;> cases he.symm.trans h
  · exact .nothing s _
  · exact (Move.keep hd).does nofun

theorem dataOp_does (s : St) (n : Nat) (f : Str → Option Str) : Does 0 s (step.dataOp s n f) := by
  rcases dataOp_cases s n f with ⟨e, h⟩ | ⟨_, _, hn, _, hv, h⟩ <;> rw [h]
  · exact .nothing s _
  · exact (Move.newData hn hv).does nofun

/-- the handle table grows by exactly the references handed out -/
theorem Move.handles {n : Nat} {s s' : St} (h : Move n s s') : ∃ l, l.length = n ∧ s'.handles = s.handles ++ l := by
  have quiet : ∀ {a b : St}, b.handles = a.handles → ∃ l, l.length = 0 ∧ b.handles = a.handles ++ l :=
    fun e => ⟨[], rfl, by rw [e, List.append_nil]⟩
  induction h with
  | refl s => exact quiet rfl
  | trans _ _ ih1 ih2 =>
    obtain ⟨l1, rfl, e1⟩ := ih1
    obtain ⟨l2, rfl, e2⟩ := ih2
    exact ⟨l1 ++ l2, List.length_append, by rw [e2, e1, List.append_assoc]⟩
  | handle s x => exact ⟨[x], rfl, rfl⟩
  | split _ _ _ => exact ⟨[_], rfl, rfl⟩
  | insert hins => exact quiet (detach_handles hins.detached :)
  | keep hd => exact quiet (detach_handles hd :)
  | miss hd => exact quiet (detach_handles hd :)
  | attach hd _ _ => exact quiet (detach_handles hd :)
  | _ => exact quiet rfl

theorem Move.quiet {s s' : St} (h : Move 0 s s') : s'.handles = s.handles := by
  obtain ⟨l, hl, e⟩ := h.handles
  rw [e, List.eq_nil_of_length_eq_zero hl, List.append_nil]

/-- the number of references a call hands out: one, whatever the outcome, for the factories, `getAttributeNode`,
    `childAt` and `splitText`; none for every other call -/
def slots : Op → Nat
  | .createElement _ | .createText _ | .createComment _ | .createCData _ | .createPI _ _ | .createAttribute _
  | .createEntityRef _ | .getAttributeNode _ _ | .childAt _ _ | .splitText _ _ => 1
  | _ => 0

theorem step_does (s : St) (op : Op) : Does (slots op) s (step s op) := by
  cases op with
  | createElement name => exact factory_does s _ fun h => .elem h
  | createText d => exact factory_does s _ fun h => .text h
  | createComment d => exact factory_does s _ fun h => .comment h
  | createCData d => exact factory_does s _ fun h => .cdata h
  | createPI t d => exact factory_does s _ fun h => .pi (Bool.and_eq_true_iff.mp h).1 (Bool.and_eq_true_iff.mp h).2
  | createAttribute name => exact factory_does s _ fun h => .attr h
  | createEntityRef name =>
    rw [step_createEntityRef]
    split
    · next hn => exact factory_does s _ fun hp => .ref hn hp
    · exact factory_does s _ nofun
  | appendChild p c => exact insertChild_does rfl
  | insertBefore p c r => exact insertChild_does rfl
  | removeChild p c => exact removeChild_does rfl
  | replaceChild p new old =>
    rcases replaceChild_cases s p new old with ⟨_, h⟩ | ⟨_, _, _, hi, h⟩ | ⟨_, _, _, _, _, _, _, hr, hi, h⟩ <;> rw [h]
    · exact .nothing s _
    · exact (insertChild_does hi).moves.does nofun
    · exact (Move.trans (removeChild_does hr).moves (insertChild_does hi).moves).does nofun
  | setData n d => simp only [step]; exact dataOp_does s n _
  | appendData n d => simp only [step]; exact dataOp_does s n _
  | insertData n off d => simp only [step]; exact dataOp_does s n _
  | deleteData n off cnt => simp only [step]; exact dataOp_does s n _
  | replaceData n off cnt d => simp only [step]; exact dataOp_does s n _
  | getAttributeNode e name => simp only [step]; repeat' split
                               all_goals exact .slot s _ _
  | childAt n i => simp only [step]; repeat' split
                   all_goals exact .slot s _ _
  | removeAttribute e name =>
    simp only [step]
    split
    · exact (Move.detachAll _ s).does nofun
    · exact .nothing s _
  | removeAttributeNode e a =>
    simp only [step]
    repeat' split
    all_goals first | exact .nothing s _ | exact (Move.detachAll _ s).does nofun
  | normalize e =>
    simp only [step]
    split
    · next hf => exact (Move.normalize hf).does nofun
    · exact .nothing s _
  | setAttribute e name value =>
    simp only [step]
    split
    · next en hf =>
      split
      · split
        · exact .nothing s _
        · next hq =>
          split
          · exact .nothing s _
          · next ps hps =>
            have := Move.newAttr (s.detachAll (sameLocalIds en name)) e (by simpa using hq) hps
            rw [detachAll_next] at this
            exact (Move.trans (.detachAll _ s) this).does nofun
      · exact .nothing s _
    · exact .nothing s _
  | setAttributeNode e a =>
    simp only [step]
    split
    · next en an hfe hfa =>
      split
      · split
        · exact .nothing s _
        · split
          · exact .nothing s _
          · split
            · next hd =>
              split
              · exact .nothing s _
              · next ht =>
                exact (Move.trans (.detachAll _ s) (.attach hd (findInL_some hfe).1 (by simpa using ht))).does (by split <;> nofun)
            · exact .nothing s _
      · exact .nothing s _
    · exact .nothing s _
  | setValue n v =>
    simp only [step]
    split
    · next nn hf =>
      split
      · next hk =>
        split
        · exact .nothing s _
        · next ps hps => exact (Move.newValue hf hk hps).does nofun
      all_goals first
        | exact .nothing s _
        | (split
           · next hv => exact (Move.newData hf hv).does nofun
           · exact .nothing s _)
    · exact .nothing s _
  | splitText n off =>
    simp only [step]
    split
    · next nn hf =>
      split
      all_goals first
        | exact .slot s _ _
        | (split
           · exact .slot s _ _
           · next hsp => exact (Move.split hf (by first | exact .inl ‹_› | exact .inr ‹_›) hsp).does nofun)
    · exact .slot s _ _

theorem step_moves (s : St) (op : Op) : Move (slots op) s (step s op).1 := (step_does s op).moves

end XmlRs.Dom
