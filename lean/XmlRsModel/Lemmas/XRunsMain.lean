import XmlRsModel.Lemmas.XRunsExpr
/-! COMPLETENESS of the XPath expression grammar generated from the source: every spelling (concrete expression) is
    parsed to the tree `cstX`, whatever abbreviations, white space and redundant parentheses it uses.  One induction
    over expressions, operator tails, arguments, relative paths, steps and predicates. -/
namespace XmlRs.XLex
open XmlRs XmlRs.XPath XmlRs.Lex
open Gen.XPath

mutual
theorem runs_x : ∀ (e : CX) (l : Nat), okAt l e = true → ∀ Y : Str, Cont l Y → (endsRoot e = true → RootSafe Y) →
    Runs env (.nt (ntOfLevel l)) (e.str ++ Y) (.ok (cstX e) Y)
  | .chain l' f r, l, hok, Y, hY, hR => by
    obtain ⟨rfl, hl5, hf, hr⟩ := (okAt_iff _ _).mp hok
    have hfirst := runs_x f (l + 1) hf (r.str ++ Y) (cont_tail r hr hY) (rootSafe_tail r hr hR)
    simp only [CX.str, List.append_assoc, cstX]
    rw [← ntOfLevel_low l hl5]
    exact runs_layer (.inl hl5) hfirst (runs_tail r l (.inl hl5) (endsRoot f) hr Y hY hR)
  | .unary ms e, l, hok, Y, hY, hR => by
    obtain ⟨rfl, hms, he⟩ := (okAt_iff _ _).mp hok
    simp only [CX.str, List.append_assoc]
    exact Runs.nt_of unary_prod (Runs.seq2 (Runs.many (runs_minus ((x_starts e 7 he).append Y) ms hms)) (runs_x e 7 he Y (hY.mono (by omega)) hR))
  | .union f r, l, hok, Y, hY, hR => by
    obtain ⟨rfl, hf, hr⟩ := (okAt_iff _ _).mp hok
    have hfirst := runs_x f 8 hf (r.str ++ Y) (cont_tail r hr hY) (rootSafe_tail r hr hR)
    simp only [CX.str, List.append_assoc]
    exact runs_layer (.inr rfl) hfirst (runs_tail r 7 (.inr rfl) (endsRoot f) hr Y hY hR)
  | .pathF f, l, hok, Y, hY, _ => by
    obtain ⟨rfl, hf⟩ := (okAt_iff _ _).mp hok
    have hfil := runs_x f 9 hf Y (hY.mono (by omega)) fun h => absurd (endsRoot_layer h hf) (by decide)
    exact Runs.nt_of path_prod (Runs.alt (RunsAlt.hit (Runs.seq2 hfil (Runs.opt_none (Runs.seq_fail_head
      (Runs.seq_fail ((hY.after_char (Nat.le_refl 8) (by decide) rfl).fails (fun _ => slash_fails) _)))))))
  | .pathFR f w1 ds w2 rel, l, hok, Y, hY, _ => by
    obtain ⟨rfl, hf, h1, h2, hrel⟩ := (okAt_iff _ _).mp hok
    have hfil := runs_x f 9 hf _ (cont_of_slash h1 ds (w2 ++ (rel.str ++ Y))) fun h => absurd (endsRoot_layer h hf) (by decide)
    simp only [CX.str, List.append_assoc]
    exact Runs.nt_of path_prod (Runs.alt (RunsAlt.hit (Runs.seq2 hfil (Runs.opt_some
      (Runs.seq2 (runs_slash_sep h1 h2 ds ((rel_starts hrel).append Y)) (runs_rel rel hrel Y hY))))))
  | .pathAbs ds w rel, l, hok, Y, hY, _ => by
    obtain ⟨rfl, hw, hrel⟩ := (okAt_iff _ _).mp hok
    have hst := (rel_starts hrel).append Y
    simp only [CX.str, List.append_assoc]
    exact Runs.nt_of path_prod (Runs.alt (RunsAlt.skip (Runs.seq_fail_head (filter_fails_of_primary (primary_fails_slash ds _)))
      (RunsAlt.hit (Runs.seq2 (Runs.seq2 (runs_slash ds _ (.ws (on_space rfl) hw fun _ => hst.stops_eq (by decide))) (runs_cls0 hw (hst.stops_space stepStart_space)))
        (runs_rel rel hrel Y hY)))))
  | .pathRel rel, l, hok, Y, hY, _ => by
    obtain ⟨rfl, hrel⟩ := (okAt_iff _ _).mp hok
    exact Runs.nt_of path_prod (Runs.alt (RunsAlt.skip (Runs.seq_fail_head (filter_fails_of_primary (primary_fails_on_rel rel hrel hY)))
      (RunsAlt.skip (Runs.seq_fail_head (Runs.seq_fail_head (slash_fails (((rel_starts hrel).append Y).stops_eq (by decide)))))
      (RunsAlt.hit (runs_rel rel hrel Y hY)))))
  | .pathRoot, l, hok, Y, hY, hR => by
    obtain rfl := (okAt_iff _ _).mp hok
    have hnsl : Stops (· == '/') Y := (hY.after_char (Nat.le_refl 8) (by decide) rfl).stops (on_space rfl)
    obtain ⟨w, T, rfl, hw, hs, hst⟩ := hR rfl
    -- neither a filter expression nor `/` + relative path nor a relative path: the last alternative, the bare `/`
    exact Runs.nt_of path_prod (Runs.alt (RunsAlt.skip (Runs.seq_fail_head (filter_fails_of_primary (primary_fails_slash false _)))
      (RunsAlt.skip (seq_fail_second (Runs.seq2 (runs_slash false _ hnsl) (runs_cls0 hw hs)) (rel_fails hs hst))
      (RunsAlt.skip (rel_fails (Stops.cons _ (by decide)) (Stops.cons _ (by decide))) (RunsAlt.hit (Runs.tag_ok ['/'] _))))))
  | .filter p preds, l, hok, Y, hY, _ => by
    obtain ⟨rfl, hp, hpreds⟩ := (okAt_iff _ _).mp hok
    have hprim := runs_x p 10 hp (preds.str ++ Y) (cont_preds preds hpreds hY) fun h => absurd (endsRoot_layer h hp) (by decide)
    simp only [CX.str, List.append_assoc]
    exact Runs.nt_of filter_prod (Runs.seq2 hprim (Runs.many (runs_preds preds hpreds Y hY)))
  | .var q, l, hok, Y, hY, _ => by
    obtain ⟨rfl, hq⟩ := (okAt_iff _ _).mp hok
    exact Runs.nt_of primary_prod (Runs.alt (RunsAlt.hit (Runs.nt_of variable_prod (Runs.seq2 (Runs.tag_ok ['$'] _) (runs_qname hq hY.stops_nc)))))
  | .paren w1 e w2, l, hok, Y, hY, _ => by
    obtain ⟨rfl, h1, he, h2⟩ := (okAt_iff _ _).mp hok
    have hinner := runs_x e 0 he (w2 ++ (')' :: Y)) (cont_of_closer 0 h2 ')' (.inl rfl) Y) fun _ => rootSafe_of_head h2 (by decide) Y
    simp only [CX.str, List.cons_append, List.append_assoc, List.nil_append]
    exact Runs.nt_of primary_prod (Runs.alt (RunsAlt.skip (variable_fails (Stops.cons _ (by decide))) (RunsAlt.hit (Runs.seq3
      (Runs.seq2 (Runs.tag_ok ['('] _) (runs_cls0 h1 (((x_starts e 0 he).append _).stops_space (exprStart_space 0))))
      (runs_expr hinner) (runs_ws_tag h2 [')'] (.cons _ (by decide)))))))
  | .lit q s, l, hok, Y, hY, _ => by
    obtain ⟨rfl, hq, hs⟩ := (okAt_iff _ _).mp hok
    simp only [CX.str, List.cons_append, List.append_assoc, List.nil_append]
    rcases isQuote_cases hq with rfl | rfl <;>
      exact Runs.nt_of primary_prod (Runs.alt (RunsAlt.skip (variable_fails (Stops.cons _ (by decide)))
        (RunsAlt.skip (Runs.seq_fail_head (Runs.seq_fail_head (tag_fails_ne (by decide)))) (RunsAlt.hit (runs_literal hq hs Y)))))
  | .num s, l, hok, Y, hY, _ => by
    obtain ⟨rfl, hs⟩ := (okAt_iff _ _).mp hok
    exact Runs.nt (primary_alts ((okNumber_starts hs).append Y) (by decide) (RunsAlt.hit (runs_number hs (numEnd_of_cont hY))))
  | .call f w1 w2 args w3, l, hok, Y, hY, _ => by
    obtain ⟨rfl, hq, hnt, h1, h2, hargs, h3, hnone⟩ := (okAt_iff _ _).mp hok
    have hst := (okQN_starts hq).append (w1 ++ ('(' :: (w2 ++ (args.str ++ (w3 ++ (')' :: Y))))))
    have hfn := Runs.nt_of function_name_prod (Runs.verify_ok (runs_qname hq (name_ends_lpar h1 (w2 ++ (args.str ++ (w3 ++ (')' :: Y))))).1)
      (by rw [cstQN_flatten, contains_typeNames, hnt]; rfl))
    have hopen : Runs env callOpen _ _ := runs_ws_char_ws (by decide) h1 h2 (args_not_space args hargs hnone Y)
    have hcall := Runs.nt_of function_call_prod (Runs.seq2 hfn (Runs.seq3 hopen (runs_args args hargs w3 Y h3 hnone) (runs_ws_tag h3 [')'] (.cons _ (by decide)))))
    simp only [CX.str, List.cons_append, List.append_assoc, List.nil_append]
    exact Runs.nt (primary_alts hst (by decide) (RunsAlt.skip (number_fails (hst.stops ncStart_not_numStart)) (RunsAlt.hit hcall)))
theorem runs_tail : ∀ (t : CXTail) (l : Nat), (l ≤ 5 ∨ l = 7) → ∀ (b : Bool), XPath.okTail l (l + 1) b t = true → ∀ Y : Str, Cont l Y →
    (endsRootTail b t = true → RootSafe Y) → RunsMany env (iterG l) (t.str ++ Y) (.ok (cstTail t) Y)
  | .nil, l, hl, b, _, Y, hY, _ => RunsMany.stop (iter_fails l hl hY)
  | .cons w1 op w2 e t, l, hl, b, hok, Y, hY, hR => by
    obtain ⟨hlv, h1, _, _, h2, he, ht⟩ := okTail_cons.mp hok
    have hst := (x_starts e (l + 1) he).append (t.str ++ Y)
    obtain ⟨ot, eo⟩ := opText_head op
    have hoperand := runs_x e (l + 1) he (t.str ++ Y) (cont_tail t ht hY) (rootSafe_tail t ht hR)
    rw [← operandNt'_eq l hl] at hoperand
    subst hlv
    have hsep := Runs.seq3 (runs_cls0 h1 (by rw [eo]; exact Stops.cons _ (opHead_props op).1))
      (runs_op op _ (.ws (on_space rfl) h2 fun _ => hst.stops_eq (exprStart_eq _))) (runs_cls0 h2 (hst.stops_space (exprStart_space _)))
    simp only [CXTail.str, List.append_assoc, cstTail]
    refine RunsMany.step (Runs.seq2 hsep hoperand) ?_ (runs_tail t _ hl (endsRoot e) ht Y hY hR)
    rw [eo]; simp only [List.length_append, List.length_cons]; omega
theorem runs_args : ∀ (a : CArgs), okArgs a = true → ∀ (w3 Y : Str), okWs w3 = true → (a = .none → w3 = []) →
    Runs env argsAltG (a.str ++ (w3 ++ (')' :: Y))) (.ok (cstArgs a) (w3 ++ (')' :: Y)))
  | .none, _, w3, Y, _, hw => by
    rw [hw rfl]
    exact Runs.opt_none (Runs.seq_fail_head (Runs.nt_fail_of argument_prod (expr_fails_rpar Y)))
  | .some f r, hok, w3, Y, h3, _ => by
    simp only [okArgs, Bool.and_eq_true] at hok
    obtain ⟨hc, hs⟩ := cont_argtail r hok.2 h3 Y
    simp only [CArgs.str, List.append_assoc]
    exact Runs.opt_some (Runs.seq2 (runs_argument (runs_x f 0 hok.1 _ hc fun _ => hs)) (Runs.many (runs_argtail r hok.2 w3 Y h3)))
theorem runs_argtail : ∀ (t : CArgTail), okArgTail t = true → ∀ (w3 Y : Str), okWs w3 = true →
    RunsMany env argIterG (t.str ++ (w3 ++ (')' :: Y))) (.ok (cstArgTail t) (w3 ++ (')' :: Y)))
  | .nil, _, w3, Y, h3 =>
    RunsMany.stop (Runs.seq_fail_head (ws_tag_fails h3 (by decide) (by decide)))
  | .cons w1 w2 e t, hok, w3, Y, h3 => by
    obtain ⟨h1, h2, he, ht⟩ := okArgTail_cons.mp hok
    obtain ⟨hc, hs⟩ := cont_argtail t ht h3 Y
    have hst := (x_starts e 0 he).append (t.str ++ (w3 ++ (')' :: Y)))
    simp only [CArgTail.str, List.append_assoc, List.cons_append, cstArgTail]
    refine RunsMany.step (Runs.seq2 (runs_ws_char_ws (by decide) h1 h2 (hst.stops_space (exprStart_space 0)))
      (runs_argument (runs_x e 0 he _ hc fun _ => hs))) ?_ (runs_argtail t ht w3 Y h3)
    simp only [List.length_append, List.length_cons]; omega
theorem runs_rel : ∀ (r : CRel), okRel r = true → ∀ Y : Str, Cont 8 Y →
    Runs env (.nt N.relative_location_path) (r.str ++ Y) (.ok (cstRel r) Y)
  | .mk f rest, hok, Y, hY => by
    simp only [okRel, Bool.and_eq_true] at hok
    simp only [CRel.str, List.append_assoc]
    exact Runs.nt_of rel_prod (Runs.seq2 (runs_step f hok.1 _ (cont_reltail rest hok.2 hY)) (Runs.many (runs_reltail rest hok.2 Y hY)))
theorem runs_reltail : ∀ (t : CRelTail), okRelTail t = true → ∀ Y : Str, Cont 8 Y →
    RunsMany env relIterG (t.str ++ Y) (.ok (cstRelTail t) Y)
  | .nil, _, Y, hY =>
    RunsMany.stop (Runs.seq_fail_head (Runs.seq_fail ((hY.after_char (Nat.le_refl 8) (by decide) rfl).fails (fun _ => slash_fails) _)))
  | .cons w1 ds w2 s t, hok, Y, hY => by
    obtain ⟨h1, h2, hs, ht⟩ := okRelTail_cons.mp hok
    obtain ⟨c, r, e, _⟩ := slashText_starts ds
    simp only [CRelTail.str, List.append_assoc, cstRelTail]
    refine RunsMany.step (Runs.seq2 (runs_slash_sep h1 h2 ds ((step_starts hs).append _)) (runs_step s hs _ (cont_reltail t ht hY))) ?_
      (runs_reltail t ht Y hY)
    rw [e]; simp only [List.length_append, List.length_cons]; omega
theorem runs_step : ∀ (s : CStep), okStep s = true → ∀ Z : Str, Cont 9 Z → Runs env (.nt N.step) (s.str ++ Z) (.ok (cstStep s) Z)
  | .dot, _, Z, hZ =>
    Runs.nt_of step_prod (Runs.alt (RunsAlt.skip (tag_fails_second _ _ (stops_not_char hZ.stops_nc (by decide))) (RunsAlt.hit (Runs.tag_ok ['.'] Z))))
  | .dotdot, _, Z, _ => Runs.nt_of step_prod (Runs.alt (RunsAlt.hit (Runs.tag_ok ['.', '.'] Z)))
  | .full ax w test preds, hok, Z, hZ => by
    have hnd : Stops (· == '.') ((CStep.full ax w test preds).str ++ Z) := ((full_starts hok).append Z).stops_eq (by decide)
    obtain ⟨hax, hw, htest, hpreds, hwe⟩ := okStep_full.mp hok
    have hZ' := nameCont_preds preds hpreds (nameCont_of_cont (by omega) hZ)
    have htst := (test_starts htest).append (preds.str ++ Z)
    have haxis : Runs env (.nt N.axis_specifier) (ax.str ++ (w ++ (test.str ++ (preds.str ++ Z)))) (.ok (cstAxis ax) (w ++ (test.str ++ (preds.str ++ Z)))) := by
      cases ax with
      | named a w0 => simpa [CAxis.str] using runs_axis_named a hax (w ++ (test.str ++ (preds.str ++ Z)))
      | attr => exact runs_axis_at _
      | omitted =>
        obtain rfl := hwe rfl
        exact runs_axis_omitted (test_no_axis test htest hZ') (htst.stops_eq (by decide))
    simp only [CStep.str, List.append_assoc] at hnd ⊢
    exact Runs.nt_of step_prod (Runs.alt (RunsAlt.skip (runs_tag_fail_head hnd) (RunsAlt.skip (runs_tag_fail_head hnd) (RunsAlt.hit (Runs.seq3 haxis
      (Runs.seq2 (runs_cls0 hw (htst.stops_space (on_space (by decide)))) (runs_node_test test htest hZ')) (Runs.many (runs_preds preds hpreds Z hZ)))))))
theorem runs_preds : ∀ (p : CPreds), okPreds p = true → ∀ Z : Str, Cont 9 Z → RunsMany env predIterG (p.str ++ Z) (.ok (cstPreds p) Z)
  | .nil, _, Z, hZ =>
    RunsMany.stop (Runs.seq_fail ((hZ.after_char (Nat.le_refl 9) (by decide) rfl).fails
      (fun _ hT => Runs.nt_fail_of predicate_prod (Runs.seq_fail_head (Runs.seq_fail_head (runs_tag_fail_head hT)))) _))
  | .cons w w1 e w2 t, hok, Z, hZ => by
    obtain ⟨hw, h1, he, h2, ht⟩ := okPreds_cons.mp hok
    have hst := (x_starts e 0 he).append (w2 ++ (']' :: (t.str ++ Z)))
    have hinner := runs_x e 0 he _ (cont_of_closer 0 h2 ']' (.inr (.inl rfl)) (t.str ++ Z)) fun _ => rootSafe_of_head h2 (by decide) _
    have hpred := Runs.nt_of predicate_prod (Runs.seq3 (Runs.seq2 (Runs.tag_ok ['['] _) (runs_cls0 h1 (hst.stops_space (exprStart_space 0))))
      (Runs.nt_of predicate_expr_prod (runs_expr hinner)) (runs_ws_tag h2 [']'] (.cons _ (by decide))))
    simp only [CPreds.str, List.append_assoc, List.cons_append, cstPreds]
    refine RunsMany.step (r := t.str ++ Z) (Runs.seq2 (runs_cls0 hw (Stops.cons _ (by decide))) hpred) ?_ (runs_preds t ht Z hZ)
    simp only [List.length_append, List.length_cons]; omega
end

end XmlRs.XLex
