import XmlRsModel.XPath.Eval
/-! Document order of the XPath data model: `keyLt` is the lexicographic order of keys (a proper prefix first), so
    a strict total order, and the list `allKeys d` of all nodes is strictly increasing for it (hence duplicate-free). -/
namespace XmlRs.XPath
open XmlRs

abbrev KLt (a b : Key) : Prop := keyLt a b = true

/-- `keyLt` decides the lexicographic order of lists of numbers: the order laws are those of `List` -/
theorem keyLt_iff_lt : ∀ {a b : Key}, keyLt a b = true ↔ a < b
  | [], [] => by simp only [keyLt, Bool.false_eq_true, List.lt_irrefl]
  | [], _ :: _ => by simp only [keyLt, List.nil_lt_cons]
  | _ :: _, [] => by simp only [keyLt, Bool.false_eq_true, List.not_lt_nil]
  | x :: xs, y :: ys => by
    simp only [keyLt, Bool.or_eq_true, Bool.and_eq_true, decide_eq_true_eq, beq_iff_eq, List.cons_lt_cons_iff,
      keyLt_iff_lt (a := xs)]

theorem keyLt_irrefl (a : Key) : keyLt a a = false :=
  Bool.eq_false_iff.2 (mt keyLt_iff_lt.1 (List.lt_irrefl a))

theorem keyLt_trans {a b c : Key} (h1 : keyLt a b = true) (h2 : keyLt b c = true) : keyLt a c = true :=
  keyLt_iff_lt.2 (List.lt_trans (keyLt_iff_lt.1 h1) (keyLt_iff_lt.1 h2))

theorem keyLt_asymm {a b : Key} (h : keyLt a b = true) : keyLt b a = false :=
  Bool.eq_false_iff.2 (mt keyLt_iff_lt.1 (List.lt_asymm (keyLt_iff_lt.1 h)))

theorem keyLt_total (a b : Key) : a = b ∨ keyLt a b = true ∨ keyLt b a = true := by
  simp only [keyLt_iff_lt]
  by_cases h1 : a < b
  · exact .inr (.inl h1)
  · by_cases h2 : b < a
    · exact .inr (.inr h2)
    · exact .inl (List.le_antisymm (List.not_lt.1 h2) (List.not_lt.1 h1))

theorem keyLt_append_left : ∀ (p a b : Key), keyLt (p ++ a) (p ++ b) = keyLt a b
  | [], _, _ => rfl
  | x :: p, a, b => by
    simp only [List.cons_append, keyLt, keyLt_append_left p a b, Nat.lt_irrefl, decide_false, BEq.rfl, Bool.true_and,
      Bool.false_or]

theorem keyLt_append_cons (k : Key) {a b : Nat} (s t : Key) (h : a < b) : keyLt (k ++ a :: s) (k ++ b :: t) = true := by
  rw [keyLt_append_left, keyLt, decide_eq_true h, Bool.true_or]

theorem keyLt_prefix (p : Key) : ∀ {t : Key}, t ≠ [] → keyLt p (p ++ t) = true
  | [], h => absurd rfl h
  | x :: t, _ => by simpa only [List.append_nil, keyLt] using keyLt_append_left p [] (x :: t)

theorem isPrefix_iff : ∀ {a b : Key}, isPrefix a b = true ↔ ∃ t, b = a ++ t
  | [], b => by simp only [isPrefix, List.nil_append, exists_eq']
  | _ :: _, [] => by simp only [isPrefix, Bool.false_eq_true, List.cons_append, List.nil_eq, reduceCtorEq, exists_false]
  | x :: xs, y :: ys => by
      simp only [isPrefix, Bool.and_eq_true, beq_iff_eq, List.cons_append, List.cons.injEq, isPrefix_iff (a := xs)]
      constructor
      · rintro ⟨rfl, t, rfl⟩; exact ⟨t, rfl, rfl⟩
      · rintro ⟨t, rfl, rfl⟩; exact ⟨rfl, t, rfl⟩

theorem isDescendantKey_iff {a k : Key} : isDescendantKey a k = true ↔ ∃ t, t ≠ [] ∧ k = a ++ t := by
  simp only [isDescendantKey, Bool.and_eq_true, decide_eq_true_eq, isPrefix_iff]
  constructor
  · rintro ⟨hl, t, rfl⟩
    exact ⟨t, by rintro rfl; exact Nat.lt_irrefl _ (List.append_nil a ▸ hl), rfl⟩
  · rintro ⟨t, ht, rfl⟩
    exact ⟨by rw [List.length_append]; exact Nat.lt_add_of_pos_right (List.length_pos_iff.2 ht), t, rfl⟩

theorem descendant_after {a k : Key} (h : isDescendantKey a k = true) : keyLt a k = true := by
  obtain ⟨t, ht, rfl⟩ := isDescendantKey_iff.1 h
  exact keyLt_prefix a ht

private theorem range_map_pairwise (k : Key) (c n : Nat) :
    ((List.range n).map fun i => k ++ [c, i]).Pairwise KLt :=
  List.pairwise_map.2 (List.pairwise_lt_range.imp fun hab =>
    (keyLt_append_left k _ _).trans (keyLt_append_cons [c] [] [] hab))

/-- the namespace and attribute keys of the element `k`, as `keysOf` lists them: each is `k ++ [0, i]` or `k ++ [1, i]` -/
theorem mem_anKeys {w : Bool} {k x : Key} {m n : Nat}
    (h : x ∈ (if w then (List.range m).map (fun i => k ++ [0, i]) ++ (List.range n).map (fun i => k ++ [1, i]) else [])) :
    ∃ c i, c < 2 ∧ x = k ++ [c, i] := by
  split at h
  · simp only [List.mem_append, List.mem_map] at h
    rcases h with ⟨i, _, rfl⟩ | ⟨i, _, rfl⟩
    · exact ⟨0, i, by decide, rfl⟩
    · exact ⟨1, i, by decide, rfl⟩
  · cases h

theorem anKeys_pairwise (w : Bool) (k : Key) (m n : Nat) :
    (if w then (List.range m).map (fun i => k ++ [0, i]) ++ (List.range n).map (fun i => k ++ [1, i])
      else []).Pairwise KLt := by
  split
  · rw [List.pairwise_append]
    refine ⟨range_map_pairwise k 0 m, range_map_pairwise k 1 n, fun a ha b hb => ?_⟩
    obtain ⟨i, _, rfl⟩ := List.mem_map.1 ha
    obtain ⟨j, _, rfl⟩ := List.mem_map.1 hb
    exact keyLt_append_cons k _ _ (by decide)
  · exact .nil

mutual
theorem keysOf_prefix (w : Bool) : ∀ (n : XNode) (k x : Key), x ∈ keysOf w k n → ∃ t, x = k ++ t
  | .elem _ ns as ks, k, x, h => by
      rw [keysOf, List.mem_cons, List.mem_append] at h
      rcases h with rfl | h | h
      · exact ⟨[], (List.append_nil _).symm⟩
      · obtain ⟨c, i, _, rfl⟩ := mem_anKeys h; exact ⟨_, rfl⟩
      · obtain ⟨j, t, _, rfl⟩ := keysOfL_prefix w ks k 0 x h; exact ⟨_, rfl⟩
  | .text _, k, x, h | .comment _, k, x, h | .pi _ _, k, x, h =>
      ⟨[], (List.mem_singleton.1 h).trans (List.append_nil k).symm⟩
theorem keysOfL_prefix (w : Bool) : ∀ (ns : List XNode) (k : Key) (i : Nat) (x : Key), x ∈ keysOfL w k i ns →
    ∃ j t, i ≤ j ∧ x = k ++ (j + 2) :: t
  | [], _, _, _, h => nomatch h
  | n :: r, k, i, x, h => by
      rw [keysOfL, List.mem_append] at h
      rcases h with h | h
      · obtain ⟨t, rfl⟩ := keysOf_prefix w n _ x h
        exact ⟨i, t, Nat.le_refl _, List.append_assoc ..⟩
      · obtain ⟨j, t, hj, rfl⟩ := keysOfL_prefix w r k (i + 1) x h
        exact ⟨j, t, Nat.le_of_succ_le hj, rfl⟩
end

mutual
theorem keysOf_pairwise (w : Bool) : ∀ (n : XNode) (k : Key), (keysOf w k n).Pairwise KLt
  | .elem _ ns as ks, k => by
      rw [keysOf, List.pairwise_cons, List.pairwise_append]
      refine ⟨fun x hx => ?_, anKeys_pairwise w k _ _, keysOfL_pairwise w ks k 0, fun a ha b hb => ?_⟩
      · rcases List.mem_append.1 hx with hx | hx
        · obtain ⟨c, i, _, rfl⟩ := mem_anKeys hx; exact keyLt_prefix k (List.cons_ne_nil _ _)
        · obtain ⟨j, t, _, rfl⟩ := keysOfL_prefix w ks k 0 x hx; exact keyLt_prefix k (List.cons_ne_nil _ _)
      · obtain ⟨c, i, hc, rfl⟩ := mem_anKeys ha
        obtain ⟨j, t, _, rfl⟩ := keysOfL_prefix w ks k 0 b hb
        exact keyLt_append_cons k _ _ (by omega)
  | .text _, _ | .comment _, _ | .pi _ _, _ => List.pairwise_singleton _ _
theorem keysOfL_pairwise (w : Bool) : ∀ (ns : List XNode) (k : Key) (i : Nat), (keysOfL w k i ns).Pairwise KLt
  | [], _, _ => .nil
  | n :: r, k, i => by
      rw [keysOfL, List.pairwise_append]
      refine ⟨keysOf_pairwise w n (k ++ [i + 2]), keysOfL_pairwise w r k (i + 1), fun a ha b hb => ?_⟩
      obtain ⟨s, rfl⟩ := keysOf_prefix w n _ a ha
      obtain ⟨j, t, hj, rfl⟩ := keysOfL_prefix w r k (i + 1) b hb
      rw [List.append_assoc]
      exact keyLt_append_cons k _ _ (by omega)
end

theorem allKeys_pairwise (d : XDoc) : (allKeys d).Pairwise KLt := by
  rw [allKeys, List.pairwise_cons]
  refine ⟨fun x hx => ?_, keysOfL_pairwise true d.kids [] 0⟩
  obtain ⟨j, t, _, rfl⟩ := keysOfL_prefix true d.kids [] 0 x hx
  rfl

theorem allKeys_nodup (d : XDoc) : (allKeys d).Nodup :=
  (allKeys_pairwise d).imp fun hab heq => by rw [heq, KLt, keyLt_irrefl] at hab; cases hab

end XmlRs.XPath
