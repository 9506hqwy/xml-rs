import XmlRsModel.Lemmas.RunsDtdElem
/-! Completeness of content specifications (mixed content, content particles) and of element declarations. -/
namespace XmlRs.Lex
open XmlRs Gen.Xml XmlRs.Names

def cstMixedNames (names : List (Str × Str × QN)) : List CST := sepCsts cstQN names

def cstSpec : CSpec → CST
  | .empty => .node N.content_spec (.leaf ['E', 'M', 'P', 'T', 'Y'])
  | .any => .node N.content_spec (.leaf ['A', 'N', 'Y'])
  | .mixedStar w0 names w1 => .node N.content_spec (.node N.mixed (.seq [.seq [.leaf ['('], .leaf w0, .leaf kwPCDATA],
      .many (cstMixedNames names), .seq [.leaf w1, .leaf [')', '*']]]))
  | .mixedPlain w0 w1 => .node N.content_spec (.node N.mixed (.seq [.leaf ['('], .leaf w0, .leaf kwPCDATA, .leaf w1, .leaf [')']]))
  | .children w0 f ch rest w1 o => .node N.content_spec (.node N.children (mkGroupBody w0 (cstCp f) ch (cstTail ch rest) w1 o))

theorem namesText_eq (l : List (Str × Str × QN)) : namesText l = sepTextG QN.text l := rfl

/-- `( S? #PCDATA`: how both forms of mixed content start -/
theorem runs_pcdata_head {w0 : Str} (h0 : okWs w0 = true) (Y : Str) :
    Runs env (.seq [.tag ['('], .cls0 P.isSpace, .tag kwPCDATA]) ('(' :: (w0 ++ (kwPCDATA ++ Y))) (.ok (.seq [.leaf ['('], .leaf w0, .leaf kwPCDATA]) Y) :=
  Runs.seq3 (Runs.tag_ok ['('] _) (runs_cls0 h0 (.cons _ (by decide))) (Runs.tag_ok kwPCDATA _)

theorem runs_mixed_names {names : List (Str × Str × QN)} (hn : names.all (okSepItem okQN) = true) {w1 : Str} (h1 : okWs w1 = true) (Y : Str) :
    RunsMany env (.seq [barSep, .nt N.qname]) (sepTextG QN.text names ++ (w1 ++ ')' :: Y)) (.ok (cstMixedNames names) (w1 ++ ')' :: Y)) :=
  runs_sep_loop QN.text okQN (.nt N.qname) cstQN (fun _ => okQN_text_head) (fun _ _ => runs_qname) names w1 Y hn h1

theorem runs_mixed_star {w0 : Str} {names : List (Str × Str × QN)} {w1 : Str} (h : okSpec (.mixedStar w0 names w1) = true) (Y : Str) :
    Runs env (.nt N.mixed) ((CSpec.mixedStar w0 names w1).str ++ Y)
      (.ok (.node N.mixed (.seq [.seq [.leaf ['('], .leaf w0, .leaf kwPCDATA], .many (cstMixedNames names), .seq [.leaf w1, .leaf [')', '*']]])) Y) := by
  simp only [okSpec, Bool.and_eq_true] at h
  simp only [CSpec.str, namesText_eq, List.append_assoc, List.cons_append, List.nil_append]
  exact Runs.nt_of env_mixed (Runs.alt (.hit (Runs.seq3 (runs_pcdata_head h.1.1 _)
    (Runs.many (runs_mixed_names h.1.2 h.2 _)) (runs_ws_tag h.2 [')', '*'] (.cons _ (by decide))))))

theorem runs_mixed_plain {w0 w1 : Str} (h : okSpec (.mixedPlain w0 w1) = true) {c : Char} (hc : '*' ≠ c) (Y : Str) :
    Runs env (.nt N.mixed) ('(' :: (w0 ++ (kwPCDATA ++ (w1 ++ ')' :: c :: Y))))
      (.ok (.node N.mixed (.seq [.leaf ['('], .leaf w0, .leaf kwPCDATA, .leaf w1, .leaf [')']])) (c :: Y)) := by
  simp only [okSpec, Bool.and_eq_true] at h
  -- the first alternative reads as far as `)` and misses the `*`
  have hstar : Runs env (.seq [.cls0 P.isSpace, .tag [')', '*']]) (w1 ++ ')' :: c :: Y) .fail :=
    Runs.seq_fail (.fail_tail (runs_cls0 h.2 (.cons _ (by decide)))
      (.fail_head (Runs.tag_fail ((strip_append [')'] ['*'] (c :: Y)).trans (strip_cons_ne _ _ hc)))))
  exact Runs.nt_of env_mixed (Runs.alt
    (.skip (Runs.seq_fail (.fail_tail (runs_pcdata_head h.1 _) (.fail_tail (Runs.many (runs_mixed_names (names := []) rfl h.2 _)) (.fail_head hstar))))
    (.hit (Runs.seq (.cons (Runs.tag_ok ['('] _) (.cons (runs_cls0 h.1 (.cons _ (by decide))) (.cons (Runs.tag_ok kwPCDATA _)
      (.cons (runs_cls0 h.2 (.cons _ (by decide))) (.cons (Runs.tag_ok [')'] _) (.nil _))))))))))

/-- `mixed` fails on a group of content particles: `#PCDATA` does not follow `( S?` -/
theorem mixed_fails_on_group {w0 : Str} (h0 : okWs w0 = true) {f : CCp} (hf : okCp f = true) (Y : Str) :
    Runs env (.nt N.mixed) ('(' :: (w0 ++ (f.str ++ Y))) .fail := by
  obtain ⟨c, t, ec, hc1, hc2, _, _⟩ := cp_head f hf
  have hhead : ∀ gs, RunsSeq env (.tag ['('] :: .cls0 P.isSpace :: .tag kwPCDATA :: gs) ('(' :: (w0 ++ (f.str ++ Y))) .fail := fun gs => by
    rw [ec]
    exact .fail_tail (Runs.tag_ok ['('] _) (.fail_tail (runs_cls0 h0 (.cons _ hc1)) (.fail_head (Runs.tag_fail (strip_cons_ne _ _ (Ne.symm hc2)))))
  exact Runs.nt_fail_of env_mixed (Runs.alt (.skip (Runs.seq_fail_head (Runs.seq_fail (hhead _))) (.skip (Runs.seq_fail (hhead _)) (.nil _))))

theorem runs_content_spec {spec : CSpec} (h : okSpec spec = true) {w2 : Str} (hw2 : okWs w2 = true) (Y : Str) :
    Runs env (.nt N.content_spec) (spec.str ++ (w2 ++ '>' :: Y)) (.ok (cstSpec spec) (w2 ++ '>' :: Y)) := by
  cases spec with
  | empty => exact Runs.nt_of env_content_spec (Runs.alt (.hit (Runs.tag_ok _ _)))
  | any => exact Runs.nt_of env_content_spec (Runs.alt (.skip (Runs.tag_fail rfl) (.hit (Runs.tag_ok _ _))))
  | mixedStar w0 names w1 =>
    exact Runs.nt_of env_content_spec (Runs.alt (.skip (Runs.tag_fail rfl) (.skip (Runs.tag_fail rfl) (.hit (runs_mixed_star h _)))))
  | mixedPlain w0 w1 =>
    -- what follows `)` is white space or `>`, not `*`
    obtain ⟨c, r, e, hc⟩ : ∃ c r, w2 ++ '>' :: Y = c :: r ∧ '*' ≠ c := by
      cases w2 with
      | nil => exact ⟨_, _, rfl, by decide⟩
      | cons c cs =>
        rw [okWs, List.all_cons, Bool.and_eq_true] at hw2
        exact ⟨c, _, rfl, by rintro rfl; exact absurd hw2.1 (by decide)⟩
    simp only [CSpec.str, List.append_assoc, List.cons_append, List.nil_append]
    rw [e]
    exact Runs.nt_of env_content_spec (Runs.alt (.skip (Runs.tag_fail rfl) (.skip (Runs.tag_fail rfl) (.hit (runs_mixed_plain h hc r)))))
  | children w0 f ch rest w1 o =>
    simp only [okSpec] at h
    obtain ⟨h0, hf, _, _, _⟩ := okGroup_parts h
    have hbody := runs_group_body (runs_cp f) (tail_runs rest) h (w2 ++ '>' :: Y) (cpEnd_ws_then hw2 (by decide) Y)
    have hmixed := mixed_fails_on_group h0 hf (CCpTail.str ch rest ++ (w1 ++ ')' :: (o.str ++ (w2 ++ '>' :: Y))))
    rw [show (CSpec.children w0 f ch rest w1 o).str = (CCp.group w0 f ch rest w1 o).str from rfl]
    rw [group_str] at hbody ⊢
    exact Runs.nt_of env_content_spec (Runs.alt (.skip (Runs.tag_fail rfl) (.skip (Runs.tag_fail rfl)
      (.skip hmixed (.hit (Runs.nt_of env_children hbody))))))

def cstElementDecl (w0 : Str) (n : QN) (w1 : Str) (spec : CSpec) (w2 : Str) : CST :=
  .node N.element_decl (.seq [.seq [.leaf kwELEMENT, .leaf w0], .seq [cstQN n, .seq [.leaf w1, cstSpec spec]], .seq [.leaf w2, .leaf ['>']]])

theorem spec_stops_space (spec : CSpec) (Y : Str) : Stops P.isSpace (spec.str ++ Y) := by
  cases spec <;> exact .cons _ (by decide)

theorem okDtd_elementDecl {w0 : Str} {n : QN} {w1 : Str} {spec : CSpec} {w2 : Str} (h : okDtdItem (.elementDecl w0 n w1 spec w2) = true) :
    okWs1 w0 = true ∧ okQN n = true ∧ okWs1 w1 = true ∧ okSpec spec = true ∧ okWs w2 = true := by
  simpa only [okDtdItem, Bool.and_eq_true, and_assoc] using h

theorem runs_element_decl {w0 : Str} {n : QN} {w1 : Str} {spec : CSpec} {w2 : Str} (h : okDtdItem (.elementDecl w0 n w1 spec w2) = true) (Y : Str) :
    Runs env (.nt N.element_decl) ((CDtdItem.elementDecl w0 n w1 spec w2).str ++ Y) (.ok (cstElementDecl w0 n w1 spec w2) Y) := by
  obtain ⟨h0, hn, h1, hs, h2⟩ := okDtd_elementDecl h
  simp only [CDtdItem.str, List.append_assoc, List.cons_append, List.nil_append]
  exact Runs.nt_of env_element_decl
    (Runs.seq3 (runs_tag_ws1 kwELEMENT h0 (stops_space_name hn _))
      (Runs.seq2 (runs_qname hn (.ws1 nc_space h1 _)) (runs_ws1_then h1 (spec_stops_space spec _) (runs_content_spec hs h2 Y))) (runs_close h2 Y))

end XmlRs.Lex
