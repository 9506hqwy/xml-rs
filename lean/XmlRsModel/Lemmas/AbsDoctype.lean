import XmlRsModel.Lemmas.AbsDtdItems
/-! `absMarkup`, `absIntSubset`, `absDoctype` on the trees of a rendering, and the depth of those trees. -/
namespace XmlRs.Lex
open XmlRs Gen.Xml XmlRs.Names

def markupBody : CDtdItem → CST
  | .ws w => .leaf w
  | .comment s => cstComment s
  | .pi t b => cstPI t b
  | .elementDecl w0 n w1 spec w2 => cstElementDecl w0 n w1 spec w2
  | .attlist w0 e defs w1 => cstAttlist w0 e defs w1
  | .entity w0 n w1 d w2 => cstEntity w0 n w1 d w2
  | .notationDecl w0 n w1 id w2 => cstNotation w0 n w1 id w2

def subsetEntry (i : CDtdItem) : Nat × CST := (if isWsDtd i then N.decl_sep else N.markup_decl, markupBody i)

theorem cstDtdItem_kidsL (i : CDtdItem) : (cstDtdItem i).kidsL = [subsetEntry i] := by cases i <;> rfl

section
variable (b : CST)
@[cst_simp] theorem absMarkup_comment : absMarkup (.node N.comment b) = .ok none := rfl
@[cst_simp] theorem absMarkup_elementDecl : absMarkup (.node N.element_decl b) = .ok none := rfl
@[cst_simp] theorem absMarkup_pi : absMarkup (.node N.pi b) = match absPI b with | (t, d) => .ok (some (.pi t d)) := rfl
@[cst_simp] theorem absMarkup_attlist : absMarkup (.node N.attlist_decl b) =
    .ok (some (.attlist (match findL N.qname b.kidsL with | some q => absQName q | none => ⟨none, []⟩) ((allL N.att_def b.kidsL).map absAttDef))) := rfl
end

theorem absMarkup_cst (i : CDtdItem) (hi : okDtdItem i = true) (hnw : isWsDtd i = false) :
    absMarkup (markupBody i) = .ok i.erase := by
  cases i with
  | ws w => cases hnw
  | comment s => simp only [markupBody, cst_simp, CDtdItem.erase]
  | pi t b => simp only [markupBody, cst_simp, CDtdItem.erase]
  | elementDecl w0 n w1 spec w2 => simp only [markupBody, cstElementDecl, cst_simp, CDtdItem.erase]
  | attlist w0 e defs w1 =>
    have hd := List.all_eq_true.mp (okDtd_attlist hi).2.2.1
    have hk : kidsLL (defs.map cstAttDef) = defs.map fun a => (N.att_def, attDefBody a) := kidsLL_map (fun _ => rfl) defs
    simp +decide only [markupBody, cstAttlist, cst_simp, hk, List.map_map, CDtdItem.erase]
    rw [List.map_congr_left (f := absAttDef ∘ attDefBody) fun a ha => absAttDef_cst a (hd a ha)]
  | entity w0 n w1 d w2 =>
    have hd := (okDtd_entity hi).2.2.2.1
    cases d with
    | internal q vals =>
      simp only [okEntDef, Bool.and_eq_true, List.all_eq_true] at hd
      have hv := absPieces_cstE q vals fun pc hpc => readable_of_okE (hd.1.2 pc hpc)
      simp +decide only [markupBody, cstEntity, cstEntDef, cstEntityValue, absMarkup, cst_simp, hv, CDtdItem.erase, CEntDef.erase]
    | external id nd =>
      rcases nd with _ | ⟨a, b, nn⟩ <;>
        simp +decide only [markupBody, cstEntity, cstEntDef, cstNdata, absMarkup, cst_simp, CDtdItem.erase, CEntDef.erase, Option.map]
  | notationDecl w0 n w1 id w2 =>
    cases id <;> simp +decide only [markupBody, cstNotation, cstNotId, absMarkup, cst_simp, CDtdItem.erase]

@[cst_simp] theorem absIntSubset_markup (b : CST) (rest : List (Nat × CST)) : absIntSubset ((N.markup_decl, b) :: rest) =
    match absMarkup b with
    | .error e => .error e
    | .ok x => match absIntSubset rest with
      | .error e => .error e
      | .ok xs => .ok (match x with | some i => i :: xs | none => xs) := rfl
@[cst_simp] theorem absIntSubset_ws (w : Str) (rest : List (Nat × CST)) :
    absIntSubset ((N.decl_sep, .leaf w) :: rest) = absIntSubset rest := rfl

theorem absIntSubset_cst : ∀ (items : List CDtdItem), items.all okDtdItem = true →
    absIntSubset (items.map subsetEntry) = .ok (items.filterMap CDtdItem.erase)
  | [], _ => rfl
  | i :: r, h => by
    simp only [List.all_cons, Bool.and_eq_true] at h
    have ih := absIntSubset_cst r h.2
    cases hw : isWsDtd i with
    | true =>
      cases i with
      | ws w => simpa only [List.map_cons, subsetEntry, isWsDtd, if_true, markupBody, cst_simp, List.filterMap_cons, CDtdItem.erase] using ih
      | _ => cases hw
    | false =>
      simp only [List.map_cons, subsetEntry, hw, Bool.false_eq_true, if_false, cst_simp, absMarkup_cst i h.1 hw, ih, List.filterMap_cons]
      cases i.erase <;> rfl

def doctypeBody (d : CDoctype) : CST :=
  .seq [.seq [.seq [.leaf kwDOCTYPE, .leaf d.ws0], cstQN d.name], .seq [cstExtPart d.ext, .leaf d.ws1], .seq [cstSubsetPart d.subset, .leaf ['>']]]

@[cst_simp] theorem cstDoctype_eq (d : CDoctype) : cstDoctype d = .node N.doctype_decl (doctypeBody d) := rfl

theorem absDoctype_cst (d : CDoctype) (h : okDoctype d = true) : absDoctype (doctypeBody d) = .ok d.erase := by
  have hsub := (okDoctype_parts h).2.2.2.2
  obtain ⟨ws0, name, ext, ws1, subset⟩ := d
  rcases subset with _ | ⟨items, w2⟩
  · rcases ext with _ | ⟨w, id⟩ <;>
      simp +decide only [absDoctype, doctypeBody, cstExtPart, cstSubsetPart, cst_simp, CDoctype.erase, extErasePub, extEraseSys, subsetErase]
  · have hi := absIntSubset_cst items (hsub items w2 rfl).1
    rw [← kidsLL_map cstDtdItem_kidsL] at hi
    rcases ext with _ | ⟨w, id⟩ <;>
      simp +decide only [absDoctype, doctypeBody, cstExtPart, cstSubsetPart, cst_simp, hi, CDoctype.erase, extErasePub, extEraseSys, subsetErase]

theorem spec_depth (spec : CSpec) : noElem (cstSpec spec) = true ∧ (cstSpec spec).ntDepth N.children = spec.gdepth := by
  cases spec with
  | children w0 f ch rest w1 o =>
    have h := cp_depth (.group w0 f ch rest w1 o)
    rw [cstCp_group] at h
    simpa +decide only [cstSpec, CSpec.gdepth, depth_simp] using h
  | mixedStar w0 names w1 => simp +decide only [cstSpec, cstMixedNames, CSpec.gdepth, depth_simp]
  | _ => simp +decide only [cstSpec, CSpec.gdepth, depth_simp]

theorem item_depth (i : CDtdItem) : noElem (cstDtdItem i) = true ∧ (cstDtdItem i).ntDepth N.children = i.gdepth := by
  cases i with
  | elementDecl w0 n w1 spec w2 =>
    have hs := spec_depth spec
    simp +decide only [cstDtdItem, cstElementDecl, CDtdItem.gdepth, depth_simp, hs.1, hs.2]
  | _ => simp +decide only [cstDtdItem, CDtdItem.gdepth, depth_simp]

theorem items_depth : ∀ items : List CDtdItem, noElemL (items.map cstDtdItem) = true ∧ ntDepthL N.children (items.map cstDtdItem) = dtdDepth items
  | [] => ⟨rfl, rfl⟩
  | i :: r => by simp only [dtdDepth, depth_simp, item_depth i, items_depth r]

theorem doctype_depth (d : CDoctype) : noElem (cstDoctype d) = true ∧ (cstDoctype d).ntDepth N.children = d.gdepth := by
  obtain ⟨ws0, name, ext, ws1, subset⟩ := d
  rcases ext with _ | ⟨w, id⟩ <;> rcases subset with _ | ⟨items, w2⟩ <;>
    simp +decide only [cstDoctype, cstExtPart, cstSubsetPart, CDoctype.gdepth, depth_simp, items_depth]

end XmlRs.Lex
