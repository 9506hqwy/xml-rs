import XmlRsModel.Lemmas.DomStep
/-! A node-local predicate `Q kind data` that holds of every node of every tree of the state, and the conditions on `Q`
    under which every DOM operation keeps it (used for C15: what every node of a reachable state holds was validated). -/
namespace XmlRs.Dom
open List

variable (Q : Kind → Str → Bool)

mutual
def allQ : Node → Bool
  | .mk _ k d as ks => Q k d && allQL as && allQL ks
def allQL : List Node → Bool
  | [] => true
  | n :: r => allQ n && allQL r
end

/-- every node of the document tree and of every detached tree satisfies `Q` -/
def ValidInv (s : St) : Prop := ∀ t ∈ s.roots, allQ Q t = true

theorem allQL_cons (n : Node) (r : List Node) : allQL Q (n :: r) = (allQ Q n && allQL Q r) := by simp [allQL]

theorem allQL_iff (l : List Node) : allQL Q l = true ↔ ∀ n ∈ l, allQ Q n = true := by
  induction l with
  | nil => simp [allQL]
  | cons x r ih => simp [allQL_cons, ih]

theorem allQL_append (a b : List Node) : allQL Q (a ++ b) = (allQL Q a && allQL Q b) := by
  induction a with
  | nil => simp [allQL]
  | cons x r ih => simp [allQL_cons, ih, Bool.and_assoc]

theorem allQ_mk (j : Nat) (k : Kind) (d : Str) (as ks : List Node) :
    allQ Q (.mk j k d as ks) = (Q k d && allQL Q as && allQL Q ks) := by simp [allQ]

theorem allQ_mk' (j : Nat) (k : Kind) (d : Str) (as ks : List Node) :
    allQ Q (.mk j k d as ks) = (Q k d && allQL Q (as ++ ks)) := by rw [allQ_mk, allQL_append, Bool.and_assoc]

theorem validInv_roots (s : St) : ValidInv Q s ↔ allQL Q s.roots = true := by
  rw [allQL_iff]; rfl

theorem validInv_iff (s : St) : ValidInv Q s ↔ allQ Q s.doc = true ∧ allQL Q s.detached = true := by
  rw [validInv_roots, roots_eq, allQL_cons, Bool.and_eq_true]

theorem remove_allQ (i : Nat) :
    (∀ t, allQ Q t = true → allQ Q (removeIn i t).1 = true) ∧ (∀ l, allQL Q l = true → allQL Q (removeInL i l).1 = true) := by
  apply removeIn.mutual_induct
  · intro j k d as ks as' x h ih hq
    rw [allQ_mk, Bool.and_eq_true, Bool.and_eq_true] at hq
    have ih := ih hq.1.2
    rw [h] at ih
    rw [removeIn_attr h, allQ_mk, hq.1.1, ih, hq.2]; rfl
  · intro j k d as ks as' h ks' x hk _ ih hq
    rw [allQ_mk, Bool.and_eq_true, Bool.and_eq_true] at hq
    rw [removeIn_kid h, allQ_mk, hq.1.1, hq.1.2, ih hq.2]; rfl
  · intro _; rw [removeInL_nil]; rfl
  · intro n r h hq
    rw [allQL_cons, Bool.and_eq_true] at hq
    rw [removeInL_hit h]; exact hq.2
  · intro n r h n' x h' ih hq
    rw [allQL_cons, Bool.and_eq_true] at hq
    have ih := ih hq.1
    rw [h'] at ih
    rw [removeInL_in h h', allQL_cons, ih, hq.2]; rfl
  · intro n r h n' h' r' x hr _ ih hq
    rw [allQL_cons, Bool.and_eq_true] at hq
    rw [removeInL_out h h', allQL_cons, hq.1, ih hq.2]; rfl

theorem isSubL_allQ (m : Node) (l : List Node) (hs : isSubL m l) (h : allQL Q l = true) : allQ Q m = true := by
  induction l using forest_induct with
  | nil => cases hs
  | cons j k d as ks r _ _ ihS ihR =>
    rw [allQL_cons, Bool.and_eq_true] at h
    rcases (isSubL_cons_mk ..).mp hs with rfl | hs | hs
    · exact h.1
    · rw [allQ_mk', Bool.and_eq_true] at h; exact ihS hs h.1.2
    · exact ihR hs h.2

theorem findIn_allQ (i : Nat) : (t n : Node) → findIn i t = some n → allQ Q t = true → allQ Q n = true := by
  intro t n hf h
  exact isSubL_allQ Q n [t] (isSubL_of_findInL (i := i) (by rwa [findInL_singleton])) (by rw [allQL_cons, h]; rfl)

/-- `f` is applied to subtrees with id `i` only -/
theorem updateInL_allQ (i : Nat) (f : Node → Node) (l : List Node)
    (hf : ∀ n, n.id = i → isSubL n l → allQ Q n = true → allQ Q (f n) = true) (h : allQL Q l = true) :
    allQL Q (updateInL i f l) = true := by
  induction l using forest_induct with
  | nil => rw [updateInL_nil]; rfl
  | cons j k d as ks r _ _ ihS ihR =>
    rw [allQL_cons, Bool.and_eq_true] at h
    rw [updateInL_cons, allQL_cons, ihR (fun n hi hs => hf n hi ((isSubL_cons_mk ..).mpr (.inr (.inr hs)))) h.2, Bool.and_true]
    by_cases hj : j = i
    · subst hj; rw [updateIn_mk_self]; exact hf _ rfl ((isSubL_cons_mk ..).mpr (.inl rfl)) h.1
    · rw [allQ_mk', Bool.and_eq_true] at h
      rw [updateIn_mk_ne hj, allQ_mk', ← updateInL_append,
        ihS (fun n hi hs => hf n hi ((isSubL_cons_mk ..).mpr (.inr (.inl hs)))) h.1.2, h.1.1]; rfl

theorem insertBeforeL_allQ (x : Node) (ref : Option Nat) (hx : allQ Q x = true) (l : List Node) (h : allQL Q l = true) :
    allQL Q (insertBeforeL x ref l) = true := by
  obtain ⟨p, q, rfl, e⟩ := insertBeforeL_split x ref l
  rw [allQL_append, Bool.and_eq_true] at h
  rw [e, allQL_append, allQL_cons, hx, h.1, h.2]; rfl

theorem allQL_filter (p : Node → Bool) (l : List Node) (h : allQL Q l = true) : allQL Q (l.filter p) = true := by
  rw [allQL_iff] at h ⊢
  intro n hn; exact h n (List.mem_filter.mp hn).1

theorem ValidInv.same {s s' : St} (h : ValidInv Q s) (e : s'.roots = s.roots) : ValidInv Q s' := by
  unfold ValidInv; rw [e]; exact h

theorem ValidInv.add_detached {s s' : St} (h : ValidInv Q s) {l : List Node} (hl : allQL Q l = true)
    (e : s'.roots = s.roots ++ l) : ValidInv Q s' := by
  rw [validInv_roots] at h ⊢
  rw [e, allQL_append, h, hl]; rfl

theorem ValidInv.handles {s : St} (h : ValidInv Q s) (hs : List (Option Nat)) : ValidInv Q { s with handles := hs } := h.same Q rfl
theorem ValidInv.next {s : St} (h : ValidInv Q s) (nx : Nat) : ValidInv Q { s with next := nx } := h.same Q rfl

theorem detach_valid {s s1 : St} {i : Nat} {x : Option Node} (h : s.detach i = (s1, x)) (hi : ValidInv Q s) :
    ValidInv Q s1 ∧ ∀ n, x = some n → allQ Q n = true := by
  refine ⟨?_, fun n hn => isSubL_allQ Q n s.roots (detach_taken (hn ▸ h)) ((validInv_roots Q s).mp hi)⟩
  rw [validInv_iff] at hi ⊢
  rcases detach_cases h with ⟨_, _, rfl, _⟩ | ⟨d', _, hR, rfl, _⟩ | ⟨_, det', _, hD, rfl⟩
  · exact ⟨hi.1, allQL_filter Q _ _ hi.2⟩
  · have hh := (remove_allQ Q i).1 s.doc hi.1
    rw [hR] at hh
    exact ⟨hh, hi.2⟩
  · have hh := (remove_allQ Q i).2 s.detached hi.2
    rw [hD] at hh
    exact ⟨hi.1, hh⟩

theorem update_valid (s : St) (i : Nat) (f : Node → Node) (hf : ∀ n, allQ Q n = true → allQ Q (f n) = true)
    (hi : ValidInv Q s) : ValidInv Q (s.update i f) := by
  rw [validInv_roots] at hi ⊢
  rw [update_roots]; exact updateInL_allQ Q i f s.roots (fun n _ _ => hf n) hi

theorem found_valid (s : St) (hi : ValidInv Q s) (i : Nat) (n : Node) (hf : s.find i = some n) : allQ Q n = true :=
  isSubL_allQ Q n s.roots (isSubL_of_findInL hf) ((validInv_roots Q s).mp hi)

theorem fresh_valid (s : St) (k : Kind) (d : Str) (hq : Q k d = true) (hi : ValidInv Q s) : ValidInv Q (s.fresh k d).1 :=
  hi.add_detached Q (l := [.mk s.next k d [] []]) (by rw [allQL_cons, allQ_mk, hq]; rfl) rfl

theorem mapKids_allQ (g : List Node → List Node) (hg : ∀ ks, allQL Q ks = true → allQL Q (g ks) = true) (n : Node)
    (h : allQ Q n = true) : allQ Q (n.mapKids g) = true := by
  cases n with
  | mk j k d as ks =>
    simp only [Node.mapKids, allQ_mk, Bool.and_eq_true] at h ⊢
    exact ⟨h.1, hg ks h.2⟩

theorem mapAttrs_allQ (g : List Node → List Node) (hg : ∀ ks, allQL Q ks = true → allQL Q (g ks) = true) (n : Node)
    (h : allQ Q n = true) : allQ Q (n.mapAttrs g) = true := by
  cases n with
  | mk j k d as ks =>
    simp only [Node.mapAttrs, allQ_mk, Bool.and_eq_true] at h ⊢
    exact ⟨⟨h.1.1, hg as h.1.2⟩, h.2⟩

theorem withData_allQ (d' : Str) (n : Node) (hq : Q n.kind d' = true) (h : allQ Q n = true) : allQ Q (n.withData d') = true := by
  cases n with
  | mk j k d as ks =>
    simp only [Node.withData, Node.kind, allQ_mk, Bool.and_eq_true] at h hq ⊢
    exact ⟨⟨hq, h.1.2⟩, h.2⟩

theorem kids_allQ (n : Node) (h : allQ Q n = true) : allQL Q n.kids = true := by
  cases n; simp only [allQ_mk, Bool.and_eq_true, Node.kids] at h ⊢; exact h.2

theorem own_Q (n : Node) (h : allQ Q n = true) : Q n.kind n.data = true := by
  cases n; simp only [allQ_mk, Bool.and_eq_true, Node.kind, Node.data] at h ⊢; exact h.1.1

end XmlRs.Dom
