import XmlRsModel.Names
import XmlRsModel.Lemmas.PegSound
/-! `Stops p r`: `r` cannot continue a run of the class `p`; what `spanP` does in front of such a rest.
    Closed forms of the name productions of the generated XML grammar (`ncname`, `qname`, `name`,
    `nmtoken`): what `run` computes on them, as plain list functions. -/
namespace XmlRs.Lex

def Stops (p : Char → Bool) (r : Str) : Prop := r = [] ∨ ∃ c r', r = c :: r' ∧ p c = false

theorem Stops.cons {p : Char → Bool} {c : Char} (r : Str) (h : p c = false) : Stops p (c :: r) := .inr ⟨c, r, rfl, h⟩
theorem Stops.nil {p : Char → Bool} : Stops p [] := .inl rfl

theorem Stops.mono {p q : Char → Bool} {r : Str} (h : Stops p r) (hpq : ∀ c, p c = false → q c = false) : Stops q r := by
  rcases h with rfl | ⟨c, r', rfl, hc⟩
  · exact .nil
  · exact .cons r' (hpq c hc)

theorem span_append_stops (p : Char → Bool) {r : Str} (hr : Stops p r) : ∀ s : Str,
    spanP p (s ++ r) = ((spanP p s).1, (spanP p s).2 ++ r)
  | [] => by
    rcases hr with rfl | ⟨c, r', rfl, hc⟩
    · simp [spanP]
    · simp [spanP, hc]
  | a :: as => by
    simp only [List.cons_append, spanP]
    split
    · simp [span_append_stops p hr as]
    · simp

theorem span_nil_of_stops {p : Char → Bool} {r : Str} (hr : Stops p r) : spanP p r = ([], r) :=
  span_append_stops p hr []

theorem all_of_all_span (p q : Char → Bool) : ∀ t : Str, t.all q = true → (spanP p t).2.all q = true
  | [], _ => by simp [spanP]
  | c :: cs, h => by
    simp only [List.all_cons, Bool.and_eq_true] at h
    simp only [spanP]
    split
    · exact all_of_all_span p q cs h.2
    · simp [h.1, h.2]

end XmlRs.Lex

namespace XmlRs.Names
open XmlRs Gen.Xml XmlRs.Lex

theorem spanP_rest_nil_iff (p : Char → Bool) : ∀ s, (spanP p s).2 = [] ↔ s.all p = true
  | [] => by simp [spanP]
  | c :: cs => by
      simp only [spanP]; split
      · next h => simp [h, spanP_rest_nil_iff p cs]
      · next h => simp [h]

theorem spanP_append_all (p : Char → Bool) : ∀ (s t : Str), s.all p = true → spanP p (s ++ t) = (s ++ (spanP p t).1, (spanP p t).2)
  | [], t, _ => by simp
  | c :: cs, t, h => by
    simp only [List.all_cons, Bool.and_eq_true] at h
    simp [spanP, h.1, spanP_append_all p cs t h.2]

theorem spanP_of_all (p : Char → Bool) (s r : Str) (hs : s.all p = true) (hr : Stops p r) : spanP p (s ++ r) = (s, r) := by
  rw [spanP_append_all p s r hs, span_nil_of_stops hr, List.append_nil]

theorem spanP_eq_of_all {p : Char → Bool} {s : Str} (h : s.all p = true) : spanP p s = (s, []) := by
  have := spanP_of_all p s [] h .nil
  rwa [List.append_nil] at this

theorem full_of_rest {f n : Nat} {s : Str} {o : Option Str}
    (h : (match run env f (.nt n) s with | .ok _ r => some r | _ => none) = o) :
    (match run env f (.nt n) s with | .ok _ [] => true | _ => false) = (o == some []) := by
  subst h
  cases run env f (.nt n) s with
  | ok c r => cases r <;> rfl
  | fail => rfl
  | fuel => rfl

abbrev ncRest : Char → Bool := P.except P.isNameChar [':']

/-- closed form of `ncname`: (consumed text, rest) -/
def ncnameP : Str → Option (Str × Str)
  | [] => none
  | c :: cs => if (c != ':' && P.isNameStartChar c) then
      some (c :: (spanP ncRest cs).1, (spanP ncRest cs).2)
    else none

theorem ncname_body (f : Nat) (s : Str) : run env (f+5) (env N.ncname) s =
    (match ncnameP s with
     | none => .fail
     | some (a, r) => .ok (.seq [.leaf (a.take 1),
          if a.drop 1 = [] then .seq [] else .leaf (a.drop 1)]) r) := by
  cases s with
  | nil => simp [run, env_ncname, Prod.ncname, runSeq, ncnameP]
  | cons c cs =>
    have h58 : Char.ofNat 58 = ':' := rfl
    simp only [run, env_ncname, Prod.ncname, runSeq, runAlt, ncnameP, h58]
    by_cases h1 : (c != ':' && P.isNameStartChar c) = true
    · simp only [h1, ite_true]
      by_cases h2 : (spanP ncRest cs).1 = []
      · have h3 : (spanP ncRest cs).2 = cs := by
          have := spanP_append ncRest cs; rw [h2] at this; simpa using this
        simp [h2, h3]
      · simp [h2]
    · simp [h1]

theorem ncname_run_rest (f : Nat) (s : Str) :
    (match run env (f+6) (.nt N.ncname) s with
     | .ok _ r => some r
     | _ => none) = (ncnameP s).map (·.2) := by
  rw [run, ncname_body]
  cases ncnameP s <;> rfl

/-- closed form of `qname` = alt [prefixed_name, ncname] -/
def qnameP (s : Str) : Option (Str × Str) :=
  match ncnameP s with
  | none => none
  | some (a, r) => match r with
      | ':' :: r' => match ncnameP r' with
          | some (b, r'') => some (a ++ ':' :: b, r'')
          | none => some (a, r)
      | _ => some (a, r)

theorem qname_run_rest (f : Nat) (s : Str) :
    (match run env (f+12) (.nt N.qname) s with
     | .ok _ r => some r
     | _ => none) = (qnameP s).map (·.2) := by
  have h58 : Char.ofNat 58 = ':' := rfl
  simp only [run, env_qname, Prod.qname, env_prefixed_name, Prod.prefixed_name, runAlt, runSeq, h58, ncname_body, qnameP]
  cases hn : ncnameP s with
  | none => rfl
  | some ar =>
    obtain ⟨a, r⟩ := ar
    simp only
    cases r with
    | nil => rfl
    | cons d r' =>
      by_cases hd : d = ':'
      · subst hd
        simp only [stripPrefix, ite_true]
        cases hn2 : ncnameP r' with
        | none => rfl
        | some br => rfl
      · simp [stripPrefix, hd, Ne.symm hd]

/-- closed form of `name` = NameStartChar* NameChar*  (the code's reading of production [5]) -/
theorem name_run_full (f : Nat) (s : Str) :
    run env (f+6) (.nt N.name) s =
      .ok (.node N.name (.seq [.node N.multinamestartchar0 (.leaf (spanP P.isNameStartChar s).1),
                               .node N.multinamechar0 (.leaf (spanP P.isNameChar (spanP P.isNameStartChar s).2).1)]))
          (spanP P.isNameChar (spanP P.isNameStartChar s).2).2 := by
  simp [run, env_name, Prod.name, env_multinamestartchar0, Prod.multinamestartchar0, env_multinamechar0, Prod.multinamechar0, runSeq]

theorem name_run_rest (f : Nat) (s : Str) :
    (match run env (f+6) (.nt N.name) s with
     | .ok _ r => some r
     | _ => none) = some (spanP P.isNameChar (spanP P.isNameStartChar s).2).2 := by
  rw [name_run_full]

theorem nmtoken_run_rest (f : Nat) (s : Str) :
    (match run env (f+4) (.nt N.nmtoken) s with
     | .ok _ r => some r
     | _ => none) = if (spanP P.isNameChar s).1 = [] then none else some (spanP P.isNameChar s).2 := by
  simp only [run, env_nmtoken, Prod.nmtoken]
  by_cases h : (spanP P.isNameChar s).1 = [] <;> simp [h]

end XmlRs.Names
