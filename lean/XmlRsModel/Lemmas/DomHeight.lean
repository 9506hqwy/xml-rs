import XmlRsModel.Lemmas.DomStep
import XmlRsModel.Lemmas.DomNorm
/-! Element nesting never exceeds the depth the parser reads back (`maxDepth_element`): an invariant of every operation. -/
namespace XmlRs.Dom
open List Gen.Xml

abbrev M : Nat := maxDepth_element

/-- what the node itself adds to `elemHeight` and to `depthIn` -/
def me (k : Kind) : Nat := if isElemKind k then 1 else 0

theorem elemHeight_mk (j : Nat) (k : Kind) (d : Str) (as ks : List Node) :
    elemHeight (.mk j k d as ks) = me k + max (elemHeightL as) (elemHeightL ks) := by
  simp [elemHeight, me]

theorem elemHeightL_nil : elemHeightL [] = 0 := by simp only [elemHeightL]

theorem elemHeightL_cons (n : Node) (r : List Node) : elemHeightL (n :: r) = max (elemHeight n) (elemHeightL r) := by
  simp only [elemHeightL]

theorem elemHeightL_append (a b : List Node) : elemHeightL (a ++ b) = max (elemHeightL a) (elemHeightL b) := by
  induction a with
  | nil => rw [nil_append, elemHeightL_nil, Nat.zero_max]
  | cons n r ih => rw [cons_append, elemHeightL_cons, elemHeightL_cons, ih, Nat.max_assoc]

theorem elemHeight_mk' (j : Nat) (k : Kind) (d : Str) (as ks : List Node) :
    elemHeight (.mk j k d as ks) = me k + elemHeightL (as ++ ks) := by rw [elemHeight_mk, elemHeightL_append]

theorem elemHeightL_le_iff (l : List Node) (b : Nat) : elemHeightL l ≤ b ↔ ∀ n ∈ l, elemHeight n ≤ b := by
  induction l with
  | nil => simp [elemHeightL]
  | cons x r ih => rw [elemHeightL_cons, Nat.max_le, ih, forall_mem_cons]

/-- below a node of height at most `B` there is room for `B - me k` -/
theorem elemHeight_le_iff {j : Nat} {k : Kind} {d : Str} {as ks : List Node} {B : Nat} :
    elemHeight (.mk j k d as ks) ≤ B ↔ me k ≤ B ∧ elemHeightL (as ++ ks) ≤ B - me k := by
  rw [elemHeight_mk']; omega

theorem elemHeight_mk_mono (j : Nat) (k : Kind) (d : Str) {as as' ks ks' : List Node}
    (ha : elemHeightL as' ≤ elemHeightL as) (hk : elemHeightL ks' ≤ elemHeightL ks) :
    elemHeight (.mk j k d as' ks') ≤ elemHeight (.mk j k d as ks) := by
  rw [elemHeight_mk, elemHeight_mk]; omega

theorem elemHeightL_cons_mono {n n' : Node} {r r' : List Node}
    (hn : elemHeight n' ≤ elemHeight n) (hr : elemHeightL r' ≤ elemHeightL r) : elemHeightL (n' :: r') ≤ elemHeightL (n :: r) := by
  rw [elemHeightL_cons, elemHeightL_cons]; omega

theorem remove_height (i : Nat) :
    (∀ t, elemHeight (removeIn i t).1 ≤ elemHeight t) ∧ (∀ l, elemHeightL (removeInL i l).1 ≤ elemHeightL l) := by
  apply removeIn.mutual_induct
  · intro j k d as ks as' x h ih
    rw [h] at ih
    rw [removeIn_attr h]
    exact elemHeight_mk_mono j k d ih (Nat.le_refl _)
  · intro j k d as ks as' h ks' x hk _ ih
    rw [removeIn_kid h]
    exact elemHeight_mk_mono j k d (Nat.le_refl _) ih
  · rw [removeInL_nil]; exact Nat.le_refl _
  · intro n r h
    rw [removeInL_hit h, elemHeightL_cons]
    exact Nat.le_max_right _ _
  · intro n r h n' x h' ih
    rw [h'] at ih
    rw [removeInL_in h h']
    exact elemHeightL_cons_mono ih (Nat.le_refl _)
  · intro n r h n' h' r' x hr _ ih
    rw [removeInL_out h h']
    exact elemHeightL_cons_mono (Nat.le_refl _) ih

/-! ### the equations of `depthIn` / `depthInL` -/
theorem depthInL_nil (i : Nat) : depthInL i [] = none := by simp only [depthInL]

theorem depthInL_cons (i : Nat) (n : Node) (r : List Node) : depthInL i (n :: r) = (depthIn i n).or (depthInL i r) := by
  simp only [depthInL, Option.orElse_eq_or]

theorem depthInL_singleton (i : Nat) (t : Node) : depthInL i [t] = depthIn i t := by
  rw [depthInL_cons, depthInL_nil, Option.or_none]

theorem depthInL_append (i : Nat) (a b : List Node) : depthInL i (a ++ b) = (depthInL i a).or (depthInL i b) := by
  induction a with
  | nil => rw [nil_append, depthInL_nil, Option.none_or]
  | cons n r ih => rw [cons_append, depthInL_cons, depthInL_cons, ih, Option.or_assoc]

theorem depthIn_mk_self (j : Nat) (k : Kind) (d : Str) (as ks : List Node) : depthIn j (.mk j k d as ks) = some (me k) := by
  simp only [depthIn, beq_self_eq_true, if_true, me]

theorem depthIn_mk_ne {i j : Nat} (h : j ≠ i) (k : Kind) (d : Str) (as ks : List Node) :
    depthIn i (.mk j k d as ks) = (depthInL i (as ++ ks)).map (· + me k) := by
  simp only [depthIn, depthInL_append, Option.orElse_eq_or, beq_eq_false_iff_ne.mpr (Ne.symm h), Bool.false_eq_true, if_false, me]

theorem depthInL_eq_none_iff (i : Nat) (l : List Node) : depthInL i l = none ↔ cntL i l = 0 := by
  induction l using forest_induct with
  | nil => simp only [depthInL_nil, cntL_nil]
  | cons j k d as ks r _ _ ihS ihR =>
    rw [depthInL_cons, cntL_cons]
    by_cases h : j = i
    · subst h; rw [depthIn_mk_self, cnt_mk_self, Option.some_or]
      exact ⟨(fun h => nomatch h), fun h => by omega⟩
    · rw [depthIn_mk_ne h, cnt_mk_ne h, Option.or_eq_none_iff, Option.map_eq_none_iff, ihS, ihR]; omega

theorem depthInL_some_pos {i : Nat} {l : List Node} {d : Nat} (h : depthInL i l = some d) : 0 < cntL i l :=
  Nat.pos_of_ne_zero fun e => by rw [(depthInL_eq_none_iff i l).mpr e] at h; cases h

theorem depthInL_some_of_pos (i : Nat) (l : List Node) (h : 0 < cntL i l) : ∃ d, depthInL i l = some d :=
  Option.ne_none_iff_exists'.mp fun e => by have := (depthInL_eq_none_iff i l).mp e; omega

theorem depthIn_some_of_pos (i : Nat) : (t : Node) → 0 < cnt i t → ∃ d, depthIn i t = some d := by
  intro t h
  rw [← depthInL_singleton]; exact depthInL_some_of_pos i [t] (by rwa [cntL_singleton])

theorem elemHeightL_singleton (t : Node) : elemHeightL [t] = elemHeight t := by
  rw [elemHeightL_cons, elemHeightL_nil, Nat.max_zero]

/-- an update at the one node with id `p`, by a function that keeps a node within any bound that leaves room for `hx`
    below it, keeps the forest within any bound that leaves room for `hx` below the depth of `p` -/
theorem updateInL_height (p : Nat) (f : Node → Node) (hx : Nat)
    (hf : ∀ n B, elemHeight n ≤ B → me n.kind + hx ≤ B → elemHeight (f n) ≤ B) (l : List Node) (dp B : Nat)
    (hc : cntL p l ≤ 1) (hd : depthInL p l = some dp) (hB : elemHeightL l ≤ B) (hp : dp + hx ≤ B) :
    elemHeightL (updateInL p f l) ≤ B := by
  induction l using forest_induct generalizing dp B with
  | nil => rw [depthInL_nil] at hd; cases hd
  | cons j k d as ks r _ _ ihS ihR =>
    rw [cntL_cons] at hc
    rw [depthInL_cons] at hd
    rw [elemHeightL_cons, Nat.max_le] at hB
    rw [updateInL_cons, elemHeightL_cons, Nat.max_le]
    by_cases hj : j = p
    · subst hj
      rw [depthIn_mk_self, Option.some_or] at hd; cases hd
      rw [cnt_mk_self] at hc
      rw [updateIn_mk_self, updateInL_absent j f r (by omega)]
      exact ⟨hf _ B hB.1 hp, hB.2⟩
    · rw [depthIn_mk_ne hj, Option.or_eq_some_iff] at hd
      rcases hd with hd | ⟨_, hd⟩
      · obtain ⟨da, hda, rfl⟩ := Option.map_eq_some_iff.mp hd
        have := depthInL_some_pos hda
        rw [cnt_mk_ne hj] at hc
        rw [updateIn_mk_ne hj, updateInL_absent p f r (by omega), elemHeight_le_iff, ← updateInL_append]
        obtain ⟨hk, hsub⟩ := elemHeight_le_iff.mp hB.1
        exact ⟨⟨hk, ihS da _ (by omega) hda hsub (by omega)⟩, hB.2⟩
      · have := depthInL_some_pos hd
        rw [updateIn_absent p f _ (by omega)]
        exact ⟨hB.1, ihR dp B (by omega) hd hB.2 hp⟩

theorem updateIn_height (p : Nat) (f : Node → Node) (hx : Nat)
    (hf : ∀ n, elemHeight (f n) ≤ max (elemHeight n) (me n.kind + hx)) :
    (t : Node) → (dp : Nat) → cnt p t ≤ 1 → depthIn p t = some dp →
      elemHeight (updateIn p f t) ≤ max (elemHeight t) (dp + hx) := by
  intro t dp hc hd
  have := updateInL_height p f hx (fun n B h1 h2 => Nat.le_trans (hf n) (Nat.max_le.mpr ⟨h1, h2⟩)) [t] dp _
    (by rwa [cntL_singleton]) (by rwa [depthInL_singleton]) (by rw [elemHeightL_singleton]; exact Nat.le_max_left _ _)
    (Nat.le_max_right _ _)
  rwa [updateInL_cons, updateInL_nil, elemHeightL_singleton] at this

theorem updateInL_height_le (p : Nat) (f : Node → Node) (hf : ∀ n, elemHeight (f n) ≤ elemHeight n) (l : List Node) :
    elemHeightL (updateInL p f l) ≤ elemHeightL l := by
  induction l using forest_induct with
  | nil => rw [updateInL_nil]; exact Nat.le_refl _
  | cons j k d as ks r ihA ihK _ ihR =>
    rw [updateInL_cons]
    refine elemHeightL_cons_mono ?_ ihR
    by_cases hj : j = p
    · subst hj; rw [updateIn_mk_self]; exact hf _
    · rw [updateIn_mk_ne hj]; exact elemHeight_mk_mono j k d ihA ihK

theorem updateIn_height_le (p : Nat) (f : Node → Node) (hf : ∀ n, elemHeight (f n) ≤ elemHeight n) :
    (t : Node) → elemHeight (updateIn p f t) ≤ elemHeight t := by
  intro t
  have := updateInL_height_le p f hf [t]
  rwa [updateInL_cons, updateInL_nil, elemHeightL_singleton, elemHeightL_singleton] at this

/-- a subtree nests no deeper than the forest it is in -/
theorem isSubL_height (m : Node) (l : List Node) (h : isSubL m l) : elemHeight m ≤ elemHeightL l := by
  induction l using forest_induct with
  | nil => cases h
  | cons j k d as ks r _ _ ihS ihR =>
    rw [elemHeightL_cons]
    rcases (isSubL_cons_mk ..).mp h with rfl | h | h
    · exact Nat.le_max_left _ _
    · rw [elemHeight_mk']; have := ihS h; omega
    · have := ihR h; omega

theorem findIn_height (i : Nat) : (t n : Node) → findIn i t = some n → elemHeight n ≤ elemHeight t := by
  intro t n h
  rw [← elemHeightL_singleton t]; exact isSubL_height n [t] (isSubL_of_findInL (i := i) (by rwa [findInL_singleton]))

theorem elemHeightL_filter_le (p : Node → Bool) (l : List Node) : elemHeightL (l.filter p) ≤ elemHeightL l := by
  induction l with
  | nil => exact Nat.le_refl _
  | cons n r ih =>
    by_cases h : p n = true
    · rw [filter_cons_of_pos h]; exact elemHeightL_cons_mono (Nat.le_refl _) ih
    · rw [filter_cons_of_neg h, elemHeightL_cons]; exact Nat.le_trans ih (Nat.le_max_right _ _)

theorem elemHeightL_insertBeforeL (x : Node) (ref : Option Nat) (l : List Node) :
    elemHeightL (insertBeforeL x ref l) = max (elemHeightL l) (elemHeight x) := by
  obtain ⟨p, q, rfl, h⟩ := insertBeforeL_split x ref l
  rw [h, elemHeightL_append, elemHeightL_append, elemHeightL_cons, Nat.max_left_comm, Nat.max_comm]

/-- the invariant: no tree of the state (document or detached) nests elements deeper than the parser reads back -/
def HeightInv (s : St) : Prop := ∀ t ∈ s.roots, elemHeight t ≤ M

theorem heightInv_roots (s : St) : HeightInv s ↔ elemHeightL s.roots ≤ M := by
  unfold HeightInv; rw [elemHeightL_le_iff]

theorem heightInv_iff (s : St) : HeightInv s ↔ elemHeight s.doc ≤ M ∧ elemHeightL s.detached ≤ M := by
  rw [heightInv_roots, roots_eq, elemHeightL_cons, Nat.max_le]

theorem HeightInv.same {s s' : St} (h : HeightInv s) (e : s'.roots = s.roots) : HeightInv s' := by
  unfold HeightInv; rw [e]; exact h

theorem HeightInv.add_detached {s s' : St} (h : HeightInv s) {l : List Node} (hl : elemHeightL l ≤ M)
    (e : s'.roots = s.roots ++ l) : HeightInv s' := by
  rw [heightInv_roots] at h ⊢
  rw [e, elemHeightL_append]; exact Nat.max_le.mpr ⟨h, hl⟩

theorem detach_height {s s1 : St} {i : Nat} {x : Option Node} (h : s.detach i = (s1, x)) (hi : HeightInv s) :
    HeightInv s1 ∧ ∀ n, x = some n → elemHeight n ≤ M := by
  refine ⟨?_, fun n hn => Nat.le_trans (isSubL_height n s.roots (detach_taken (hn ▸ h))) ((heightInv_roots s).mp hi)⟩
  rw [heightInv_iff] at hi ⊢
  rcases detach_cases h with ⟨_, _, rfl, _⟩ | ⟨d', _, hR, rfl, _⟩ | ⟨_, det', _, hD, rfl⟩
  · exact ⟨hi.1, Nat.le_trans (elemHeightL_filter_le _ _) hi.2⟩
  · have hh := (remove_height i).1 s.doc
    rw [hR] at hh
    exact ⟨Nat.le_trans hh hi.1, hi.2⟩
  · have hh := (remove_height i).2 s.detached
    rw [hD] at hh
    exact ⟨hi.1, Nat.le_trans hh hi.2⟩

theorem update_heightInv_le (s : St) (i : Nat) (f : Node → Node) (hf : ∀ n, elemHeight (f n) ≤ elemHeight n)
    (h : HeightInv s) : HeightInv (s.update i f) := by
  rw [heightInv_roots] at h ⊢
  rw [update_roots]
  exact Nat.le_trans (updateInL_height_le i f hf s.roots) h

theorem update_heightInv_bound (s : St) (p : Nat) (f : Node → Node) (hx : Nat)
    (hf : ∀ n B, elemHeight n ≤ B → me n.kind + hx ≤ B → elemHeight (f n) ≤ B)
    (hnd : ∀ a, cntL a s.roots ≤ 1) (hd : s.elemDepth p + hx ≤ M) (h : HeightInv s) : HeightInv (s.update p f) := by
  rw [heightInv_roots] at h ⊢
  rw [update_roots]
  cases hc : cntL p s.roots with
  | zero => rw [updateInL_absent p f s.roots hc]; exact h
  | succ m =>
    obtain ⟨dp, hdp⟩ := depthInL_some_of_pos p s.roots (by omega)
    have : s.elemDepth p = dp := by simp [St.elemDepth, hdp]
    exact updateInL_height p f hx hf s.roots dp M (hnd p) hdp h (by omega)

theorem mapKids_insert_bound (x : Node) (ref : Option Nat) (n : Node) (B : Nat) (h : elemHeight n ≤ B)
    (hx : me n.kind + elemHeight x ≤ B) : elemHeight (n.mapKids (insertBeforeL x ref)) ≤ B := by
  cases n with
  | mk j k d as ks =>
    rw [Node.kind] at hx
    rw [elemHeight_le_iff, elemHeightL_append, Nat.max_le] at h
    rw [Node.mapKids, elemHeight_le_iff, elemHeightL_append, elemHeightL_insertBeforeL, Nat.max_le, Nat.max_le]
    exact ⟨h.1, h.2.1, h.2.2, by omega⟩

theorem mapAttrs_append_bound (x : Node) (n : Node) (B : Nat) (h : elemHeight n ≤ B)
    (hx : me n.kind + elemHeight x ≤ B) : elemHeight (n.mapAttrs (· ++ [x])) ≤ B := by
  cases n with
  | mk j k d as ks =>
    rw [Node.kind] at hx
    rw [elemHeight_le_iff, elemHeightL_append, Nat.max_le] at h
    rw [Node.mapAttrs, elemHeight_le_iff, elemHeightL_append, elemHeightL_append, elemHeightL_singleton, Nat.max_le, Nat.max_le]
    exact ⟨h.1, ⟨h.2.1, by omega⟩, h.2.2⟩

theorem withData_height (d : Str) (n : Node) : elemHeight (n.withData d) = elemHeight n := by
  cases n; simp [Node.withData, elemHeight_mk]

theorem not_tooDeep (s : St) (pn x : Node) (h : tooDeep s pn x = false) : s.elemDepth pn.id + elemHeight x ≤ M := by
  simp only [tooDeep, decide_eq_false_iff_not] at h; show _ ≤ maxDepth_element; omega

/-- stated with a bound `B` on what goes in, so that every maximum stands on the left of a `≤`, where it is a conjunction -/
theorem norm_height :
    (∀ n B, elemHeight n ≤ B → elemHeight (normNode n).1 ≤ B ∧ elemHeightL (normNode n).2 ≤ B) ∧
    (∀ prev l B, elemHeightL l ≤ B →
      (elemHeightL prev.toList ≤ B → elemHeightL (normList prev l).1 ≤ B) ∧ elemHeightL (normList prev l).2 ≤ B) ∧
    (∀ l B, elemHeightL l ≤ B → elemHeightL (normAttrs l).1 ≤ B ∧ elemHeightL (normAttrs l).2 ≤ B) := by
  apply normNode.mutual_induct
  · intro j d as ks nm h1 h2 B h
    rw [elemHeight_le_iff, elemHeightL_append, Nat.max_le] at h
    have h1 := h1 _ h.2.1
    have h2 := h2 _ h.2.2
    rw [normNode_elem, elemHeight_le_iff, elemHeightL_append, elemHeightL_append, Nat.max_le, Nat.max_le]
    exact ⟨⟨h.1, h1.1, h2.1 (Nat.zero_le _)⟩, Nat.le_trans h1.2 (Nat.sub_le _ _), Nat.le_trans h2.2 (Nat.sub_le _ _)⟩
  · intro j d as ks k hk B h
    rw [normNode_other hk]
    exact ⟨h, Nat.zero_le _⟩
  · intro prev B _
    rw [normList_nil]
    exact ⟨id, Nat.zero_le _⟩
  · intro prev j d as ks r hd ih B h
    rw [elemHeightL_cons, Nat.max_le] at h
    rw [normList_empty hd, elemHeightL_cons, Nat.max_le]
    exact ⟨(ih B h.2).1, h.1, (ih B h.2).2⟩
  · intro j d as ks r hd p hv ih B h
    rw [elemHeightL_cons, Nat.max_le] at h
    rw [normList_merge hd hv, elemHeightL_cons, Nat.max_le]
    refine ⟨fun hp => (ih B h.2).1 ?_, h.1, (ih B h.2).2⟩
    rwa [Option.toList, elemHeightL_singleton, withData_height, ← elemHeightL_singleton]
  · intro j d as ks r hd p hv ih B h
    rw [elemHeightL_cons, Nat.max_le] at h
    rw [normList_cut hd hv, elemHeightL_cons, Nat.max_le]
    refine ⟨fun hp => ⟨by rwa [Option.toList, elemHeightL_singleton] at hp, (ih B h.2).1 ?_⟩, (ih B h.2).2⟩
    rw [Option.toList, elemHeightL_singleton]; exact h.1
  · intro j d as ks r hd ih B h
    rw [elemHeightL_cons, Nat.max_le] at h
    rw [normList_first hd]
    refine ⟨fun _ => (ih B h.2).1 ?_, (ih B h.2).2⟩
    rw [Option.toList, elemHeightL_singleton]; exact h.1
  · intro prev j d as ks r nm ih1 ih2 B h
    rw [elemHeightL_cons, Nat.max_le] at h
    rw [normList_elem, elemHeightL_append, elemHeightL_append, elemHeightL_cons, Nat.max_le, Nat.max_le, Nat.max_le]
    exact ⟨fun hp => ⟨hp, (ih1 B h.1).1, (ih2 B h.2).1 (Nat.zero_le _)⟩, (ih1 B h.1).2, (ih2 B h.2).2⟩
  · intro prev j k d as ks r h1 h2 ih B h
    rw [elemHeightL_cons, Nat.max_le] at h
    rw [normList_other h1 h2, elemHeightL_append, elemHeightL_cons, Nat.max_le, Nat.max_le]
    exact ⟨fun hp => ⟨hp, h.1, (ih B h.2).1 (Nat.zero_le _)⟩, (ih B h.2).2⟩
  · intro B _
    rw [normAttrs_nil]
    exact ⟨Nat.zero_le _, Nat.zero_le _⟩
  · intro j k d as ks r ih1 ih2 B h
    rw [elemHeightL_cons, Nat.max_le, elemHeight_le_iff, elemHeightL_append, Nat.max_le] at h
    have h1 := ih1 _ h.1.2.2
    rw [normAttrs_cons, elemHeightL_cons, elemHeightL_append, Nat.max_le, Nat.max_le, elemHeight_le_iff, elemHeightL_append,
      Nat.max_le]
    exact ⟨⟨⟨h.1.1, h.1.2.1, h1.1 (Nat.zero_le _)⟩, (ih2 B h.2).1⟩, Nat.le_trans h1.2 (Nat.sub_le _ _), (ih2 B h.2).2⟩

theorem normNode_height (n : Node) : elemHeight (normNode n).1 ≤ elemHeight n ∧ elemHeightL (normNode n).2 ≤ elemHeight n :=
  norm_height.1 n _ (Nat.le_refl _)
theorem normAttrs_height : (l : List Node) →
    elemHeightL (normAttrs l).1 ≤ elemHeightL l ∧ elemHeightL (normAttrs l).2 ≤ elemHeightL l :=
  fun l => norm_height.2.2 l _ (Nat.le_refl _)
theorem normList_height : (prev : Option Node) → (l : List Node) →
    elemHeightL (normList prev l).1 ≤ max (elemHeightL prev.toList) (elemHeightL l) ∧
    elemHeightL (normList prev l).2 ≤ elemHeightL l :=
  fun prev l => ⟨(norm_height.2.1 prev l _ (Nat.le_max_right _ _)).1 (Nat.le_max_left _ _),
    (norm_height.2.1 prev l _ (Nat.le_refl _)).2⟩

theorem pieceKind_not_elem (p : Piece) : isElemKind (pieceKind p).1 = false := by
  cases p <;> rfl

theorem mkItems_height : ∀ (ps : List Piece) (next : Nat), elemHeightL (mkItems next ps).1 = 0
  | [], _ => by simp [mkItems, elemHeightL]
  | p :: r, next => by
    have ih := mkItems_height r (next + 1)
    simp only [mkItems, elemHeightL_cons, elemHeight_mk, me, pieceKind_not_elem, elemHeightL, ih]
    simp

theorem HeightInv.handles {s : St} (h : HeightInv s) (hs : List (Option Nat)) : HeightInv { s with handles := hs } :=
  h.same rfl

theorem mapAttrs_append_flat (x : Node) (hx : elemHeight x = 0) (n : Node) : elemHeight (n.mapAttrs (· ++ [x])) ≤ elemHeight n := by
  cases n
  rw [Node.mapAttrs, elemHeight_mk, elemHeight_mk, elemHeightL_append, elemHeightL_singleton, hx, Nat.max_zero]
  exact Nat.le_refl _

theorem mapKids_height_le (g : List Node → List Node) (hg : ∀ ks, elemHeightL (g ks) ≤ elemHeightL ks) (n : Node) :
    elemHeight (n.mapKids g) ≤ elemHeight n := by
  cases n with
  | mk j k d as ks => exact elemHeight_mk_mono j k d (Nat.le_refl _) (hg ks)

theorem kids_height_le (n : Node) : elemHeightL n.kids ≤ elemHeight n := by
  cases n; simp only [Node.kids, elemHeight_mk]; omega

theorem found_height {s : St} (hh : HeightInv s) {i : Nat} {n : Node} (hf : s.find i = some n) : elemHeight n ≤ M := by
  rw [heightInv_roots] at hh
  exact Nat.le_trans (isSubL_height n s.roots (isSubL_of_findInL hf)) hh

theorem elemHeight_leaf (j : Nat) (k : Kind) (d : Str) : elemHeight (Node.mk j k d [] []) = me k := by
  rw [elemHeight_mk, elemHeightL_nil]; rfl

theorem elemHeight_leaf_le (j : Nat) (k : Kind) (d : Str) : elemHeight (Node.mk j k d [] []) ≤ M := by
  rw [elemHeight_leaf, me]
  have : 1 ≤ M := by decide
  split <;> omega

theorem Move.heightInv {n : Nat} {s s' : St} (h : Move n s s') : Inv s → HeightInv s → HeightInv s' := by
  induction h with
  | refl s => exact fun _ hh => hh
  | trans m1 _ ih1 ih2 => exact fun hi hh => ih2 (hi.of_grow (m1.grow hi)) (ih1 hi hh)
  | handle s x => exact fun _ hh => hh.handles _
  | fresh s hc =>
    exact fun _ hh => hh.add_detached (l := [_]) (by rw [elemHeightL_singleton]; exact elemHeight_leaf_le s.next _ _) rfl
  | @insert s p c ref pn cn s1 x hins =>
    intro hi hh
    have hd := hins.detached
    obtain ⟨hh1, hx⟩ := detach_height hd hh
    have hb := not_tooDeep s1 pn x hins.shallow
    rw [(findInL_some hins.parent).1] at hb
    exact update_heightInv_bound s1 p _ (elemHeight x) (mapKids_insert_bound x _) (detach_distinct hi.1 hd) hb hh1
  | @keep s i s1 x hd =>
    intro _ hh
    obtain ⟨hh1, hx⟩ := detach_height hd hh
    exact hh1.add_detached (l := [x]) (by rw [elemHeightL_singleton]; exact hx x rfl) rfl
  | miss hd => exact fun _ hh => (detach_height hd hh).1
  | @attach s a e en s2 x hd hid ht =>
    intro hi hh
    obtain ⟨h2, hx⟩ := detach_height hd hh
    have hb := not_tooDeep s2 en x ht
    rw [hid] at hb
    exact update_heightInv_bound s2 e _ (elemHeight x) (mapAttrs_append_bound x) (detach_distinct hi.1 hd) hb h2
  | @newAttr s e name _ ps _ _ =>
    intro _ hh
    have ha : elemHeight (Node.mk s.next (.attr name true) [] [] (mkItems (s.next + 1) ps).1) = 0 := by
      rw [elemHeight_mk, mkItems_height, elemHeightL_nil]; rfl
    exact (update_heightInv_le s e _ (mapAttrs_append_flat _ ha) hh).same rfl
  | @newValue s n nn _ _ _ ps hf _ _ =>
    intro _ hh
    have h1 := update_heightInv_le s n _ (mapKids_height_le (fun _ => (mkItems s.next ps).1)
      fun _ => by rw [mkItems_height]; exact Nat.zero_le _) hh
    exact h1.add_detached (Nat.le_trans (kids_height_le nn) (found_height hh hf)) rfl
  | newData _ _ => exact fun _ hh => update_heightInv_le _ _ _ (fun m => Nat.le_of_eq (withData_height _ m)) hh
  | @split s n off nn l r hf hk hsp =>
    intro _ hh
    have h1 := update_heightInv_le s n _ (fun m => Nat.le_of_eq (withData_height l m)) hh
    have h0 : elemHeight (Node.mk s.next nn.kind r [] []) = 0 := by
      rw [elemHeight_leaf]; rcases hk with hk | hk <;> rw [hk] <;> rfl
    cases hp : (s.update n (Node.withData l)).parent n with
    | none => exact h1.add_detached (l := [_]) (by rw [elemHeightL_singleton, h0]; exact Nat.zero_le _) rfl
    | some p =>
      refine (update_heightInv_le _ p _ (mapKids_height_le _ (fun ks => ?_)) h1).same rfl
      split
      · rw [elemHeightL_insertBeforeL, h0, Nat.max_zero]; exact Nat.le_refl _
      · rw [elemHeightL_append, elemHeightL_singleton, h0, Nat.max_zero]; exact Nat.le_refl _
  | @normalize s e en hf =>
    intro _ hh
    have h1 := update_heightInv_le s e (fun n => (normNode n).1) (fun n => (normNode_height n).1) hh
    exact h1.add_detached (Nat.le_trans (normNode_height en).2 (found_height hh hf)) rfl

theorem step_heightInv (s : St) (op : Op) (hi : Inv s) (hh : HeightInv s) : HeightInv (step s op).1 :=
  (step_moves s op).heightInv hi hh

/-! ### the initial state: the height of the tree built from a parsed document is the element nesting of the document -/
mutual
/-- levels of element nesting of an information item -/
def itemDepth : Item → Nat
  | .elem _ _ kids => 1 + itemDepthL kids
  | _ => 0
def itemDepthL : List Item → Nat
  | [] => 0
  | i :: r => max (itemDepth i) (itemDepthL r)
end

def topDepth : TopItem → Nat | .elem e => itemDepth e | _ => 0
def topsDepth : List TopItem → Nat | [] => 0 | t :: r => max (topDepth t) (topsDepth r)

theorem buildAttrs_height : ∀ (as : List Attr) (next : Nat), elemHeightL (buildAttrs next as).1 = 0
  | [], _ => rfl
  | a :: r, next => by
    rw [buildAttrs]
    split
    · exact buildAttrs_height r next
    · rw [elemHeightL_cons, elemHeight_mk, mkItems_height, buildAttrs_height r, elemHeightL_nil]; rfl

theorem build_height :
    (∀ next i, elemHeight (buildNode next i).1 = itemDepth i) ∧
    (∀ next l, elemHeightL (buildNodes next l).1 = itemDepthL l) := by
  apply buildNode.mutual_induct
  · exact fun _ _ => rfl
  · exact fun _ _ => rfl
  · exact fun _ _ => rfl
  · exact fun _ _ _ => rfl
  · exact fun _ _ _ => rfl
  · exact fun _ _ => rfl
  · intro next q attrs kids
    dsimp only
    intro ih
    rw [buildNode, elemHeight_mk, buildAttrs_height, ih, itemDepth, Nat.zero_max]; rfl
  · exact fun _ => rfl
  · intro next k r
    dsimp only
    intro ih1 ih2
    rw [buildNodes, elemHeightL_cons, ih1, ih2, itemDepthL]

theorem buildNodes_height : (next : Nat) → (l : List Item) → elemHeightL (buildNodes next l).1 = itemDepthL l :=
  build_height.2

theorem buildTop_height (next : Nat) (t : TopItem) : elemHeight (buildTop next t).1 = topDepth t := by
  cases t with
  | elem e => exact build_height.1 next e
  | _ => rfl

theorem buildTops_height : ∀ (next : Nat) (l : List TopItem), elemHeightL (buildTops next l).1 = topsDepth l
  | next, [] => rfl
  | next, t :: r => by rw [buildTops, elemHeightL_cons, buildTop_height, buildTops_height _ r, topsDepth]

/-- the state a history starts from is within the bound if the document nests its elements no deeper than the bound
    (for parsed documents that is `C15.parsed_document_stays_within_depth`) -/
theorem buildSt_heightInv (d : IDoc) (h : topsDepth d.kids ≤ M) : HeightInv (buildSt d) := by
  rw [heightInv_roots]
  show elemHeightL [Node.mk 0 .doc [] [] (buildTops 1 d.kids).1] ≤ M
  rw [elemHeightL_singleton, elemHeight_mk, elemHeightL_nil, Nat.zero_max, buildTops_height]
  exact Nat.le_trans (Nat.le_of_eq (Nat.zero_add _)) h

end XmlRs.Dom
