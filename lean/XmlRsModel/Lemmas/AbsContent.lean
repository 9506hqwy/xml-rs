import XmlRsModel.Lemmas.AbsTag
/-! `abs (cst x) = erase x` for CDATA sections, PIs, comments and the items of element content. -/
namespace XmlRs.Lex
open XmlRs Gen.Xml XmlRs.Names

theorem dropLast2 (s : Str) (a b : Char) : (s ++ [a, b]).dropLast.dropLast = s := by
  rw [show s ++ [a, b] = (s ++ [a]) ++ [b] by simp, List.dropLast_concat, List.dropLast_concat]

theorem dropLast3 (s : Str) (a b c : Char) : (s ++ [a, b, c]).dropLast.dropLast.dropLast = s := by
  rw [show s ++ [a, b, c] = (s ++ [a, b]) ++ [c] by simp, List.dropLast_concat, dropLast2]

def cdataBody (s : Str) : CST := .seq [.leaf cdataOpen, .leaf s, .leaf [']', ']', '>']]
@[cst_simp] theorem cstCData_eq (s : Str) : cstCData s = .node N.cdsect (cdataBody s) := rfl

@[cst_simp] theorem absCData_cst (s : Str) : absCData (cdataBody s) = s := by
  simp only [absCData, cdataBody, cst_simp]
  exact dropLast3 s _ _ _

def piBodyCst (t b : Str) : CST := .seq [.leaf ['<', '?'], .seq [.node N.pi_target (cstName t), piBody b], .leaf ['?', '>']]
@[cst_simp] theorem cstPI_eq (t b : Str) : cstPI t b = .node N.pi (piBodyCst t b) := rfl

theorem piBody_flatten (b : Str) : (piBody b).flatten = b := by
  unfold piBody
  split
  · next h => rw [h]; rfl
  · simp only [cst_simp, spanP_append]

theorem piBody_kidsL (b : Str) : (piBody b).kidsL = [] := by
  unfold piBody
  split <;> rfl

@[cst_simp] theorem absPI_cst (t b : Str) : absPI (piBodyCst t b) = (t, piData b) := by
  have hd : ('<' :: '?' :: (t ++ (b ++ ['?', '>']))).drop (2 + t.length) = b ++ ['?', '>'] := by
    rw [Nat.add_comm]; exact List.drop_left
  simp +decide only [absPI, piBodyCst, cst_simp, piBody_kidsL, piBody_flatten, hd, dropLast2]
  cases b <;> rfl

def commentBody (s : Str) : CST := .seq [.leaf ['<', '!', '-', '-'], .many (commentIters s.length s), .leaf C15.dashEnd]
@[cst_simp] theorem cstComment_eq (s : Str) : cstComment s = .node N.comment (commentBody s) := rfl

theorem absComment_cst (s : Str) (h : okCommentBody s = true) : absComment (commentBody s) = s := by
  -- the text of the tree is the text that was parsed
  have hf : (commentBody s).flatten = commentText s := by
    simpa only [cstComment_eq, CST.flatten, List.append_nil] using Runs.flatten (runs_comment (s := s) [] h)
  simp only [absComment, hf, commentText, List.drop_succ_cons, List.drop_zero]
  exact dropLast3 s _ _ _

section
variable (f : Nat) (b : CST) (rest : List (Nat × CST))

@[cst_simp] theorem absContent_nil : absContent f [] = [] := by rw [absContent]
@[cst_simp] theorem absContent_charData : absContent f ((N.char_data, b) :: rest) =
    if b.flatten.isEmpty then absContent f rest else .text b.flatten :: absContent f rest := by rw [absContent]; rfl
@[cst_simp] theorem absContent_element : absContent f ((N.element, b) :: rest) = absElement f b :: absContent f rest := by
  rw [absContent]; rfl
@[cst_simp] theorem absContent_reference : absContent f ((N.reference, b) :: rest) =
    match absReference b with
    | .charRef d h => .charRef d h :: absContent f rest
    | .entRef nm => .entRef nm :: absContent f rest
    | _ => absContent f rest := by rw [absContent]; rfl
@[cst_simp] theorem absContent_cdsect : absContent f ((N.cdsect, b) :: rest) = .cdata (absCData b) :: absContent f rest := by
  rw [absContent]; rfl
@[cst_simp] theorem absContent_pi : absContent f ((N.pi, b) :: rest) = match absPI b with | (t, d) => .pi t d :: absContent f rest := by
  rw [absContent]; rfl
@[cst_simp] theorem absContent_comment : absContent f ((N.comment, b) :: rest) = .comment (absComment b) :: absContent f rest := by
  rw [absContent]; rfl
@[cst_simp] theorem absElement_empty (t : CST) :
    absElement (f + 1) (.node N.element_body (.node N.empty_entity_tag t)) = .elem (absTag t).1 (absTag t).2 [] := by
  rw [absElement]; rfl
@[cst_simp] theorem absElement_pair (s c e : CST) :
    absElement (f + 1) (.node N.element_body (.seq [.node N.stag s, .node N.content c, .node N.etag e])) =
      .elem (absTag s).1 (absTag s).2 (absContent f c.kidsL) := by
  rw [absElement]; rfl
end

theorem absContent_lead (f : Nat) (l : List CItem) (K : List (Nat × CST)) (hok : okItems l = true)
    (h : absContent f K = eraseL (afterLead l)) :
    absContent f ((N.char_data, .leaf (leadText l)) :: K) = eraseL l := by
  rw [absContent_charData, h]
  cases l with
  | nil => rfl
  | cons i r =>
    cases i with
    | text s =>
      have hs : s.isEmpty = false := by simpa using (okText_parts (okItems_cons hok).1).1
      simp only [leadText, CST.flatten, hs, afterLead, eraseL, CItem.erase, Bool.false_eq_true, if_false]
    | _ => rfl

def elemBody : CItem → CST
  | .elem n as w e ks w' => .node N.element_body
      (if e then cstEmptyTag n as w
       else .seq [cstSTag n as w, .node N.content (.seq [cstCharData (leadText ks), .many (cstIters ks)]), cstETag n w'])
  | _ => .leaf []

theorem cstItemNode_elem (i : CItem) (h : isElemItem i = true) : cstItemNode i = .node N.element (elemBody i) := by
  cases i <;> first | rfl | cases h

mutual
theorem abs_item : ∀ (i : CItem), okItem i = true → isTextItem i = false → ∀ f, i.depth ≤ f → ∀ tail : List (Nat × CST),
    absContent f ((cstItemNode i).kidsL ++ tail) = i.erase :: absContent f tail
  | .text s => fun _ ht => by cases ht
  | .charRef d h => fun hok _ f _ tail => by
    simp only [okItem, Bool.and_eq_true] at hok
    simp only [cstItemNode, cst_simp, absReference_charRef d h (readable_digits hok.2), CItem.erase]
  | .entRef n => fun _ _ f _ tail => by simp only [cstItemNode, cst_simp, CItem.erase]
  | .cdata s => fun _ _ f _ tail => by simp only [cstItemNode, cst_simp, CItem.erase]
  | .pi t b => fun _ _ f _ tail => by simp only [cstItemNode, cst_simp, CItem.erase]
  | .comment s => fun hok _ f _ tail => by simp only [cstItemNode, cst_simp, absComment_cst s hok, CItem.erase]
  | .elem n as w e ks w' => fun hok _ f hf tail => by
    obtain ⟨_, h2, _, _, h5, h6, h7⟩ := okElem_parts hok
    obtain ⟨f', rfl⟩ : ∃ f', f = f' + 1 := ⟨f - 1, by simp only [CItem.depth] at hf; omega⟩
    have hel : absElement (f' + 1) (elemBody (.elem n as w e ks w')) = (CItem.elem n as w e ks w').erase := by
      cases e with
      | true =>
        have hks := h5 rfl
        subst hks
        simp only [elemBody, if_true, cst_simp, absTag_cst n as w _ h2]
        rfl
      | false =>
        have hc := absContent_lead f' ks _ h6 (abs_iters ks h6 h7 f' (by simp only [CItem.depth] at hf; omega))
        simp only [elemBody, Bool.false_eq_true, if_false, cstETag, cstCharData, cst_simp, absTag_cst n as w _ h2, hc]
        rfl
    simp only [cstItemNode_elem (.elem n as w e ks w') rfl, cst_simp, hel]
theorem abs_iters : ∀ (l : List CItem), okItems l = true → adjTextI l = false → ∀ f, depthL l ≤ f →
    absContent f (kidsLL (cstIters l)) = eraseL (afterLead l)
  | [] => fun _ _ f _ => absContent_nil f
  | i :: rest => fun hok hadj f hf => by
    obtain ⟨hi, hrest⟩ := okItems_cons hok
    rw [depthL_cons] at hf
    have ih := abs_iters rest hrest (adj_tail hadj) f (by omega)
    cases hti : isTextItem i with
    | true =>
      -- the text in front has been read already; no second text follows it
      obtain ⟨s, rfl⟩ := isTextItem_true hti
      cases rest with
      | nil => exact ih
      | cons j r => rwa [afterLead_nontext (adj_text_next hadj)] at ih
    | false =>
      have hl := absContent_lead f rest _ hrest ih
      simp only [cstIters_nontext hti, afterLead_nontext hti, kidsLL, CST.kidsL, cstCharData, List.append_nil, List.append_assoc, List.cons_append, List.nil_append]
      rw [abs_item i hi hti f (by omega), hl]
      rfl
end

theorem absElement_root (i : CItem) (hi : isElemItem i = true) (hok : okItem i = true) (f : Nat) (hf : i.depth ≤ f) :
    absElement f (elemBody i) = i.erase := by
  have h := abs_item i hok (by cases i <;> first | rfl | cases hi) f hf []
  simp only [cstItemNode_elem i hi, cst_simp, List.cons.injEq, and_true] at h
  exact h

end XmlRs.Lex
