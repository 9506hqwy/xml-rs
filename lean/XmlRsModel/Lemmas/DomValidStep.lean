import XmlRsModel.Lemmas.DomValid
/-! Every DOM operation keeps `ValidInv Q`, for any node-local `Q` that the library's validity checks establish
    (`QFacts`). -/
namespace XmlRs.Dom
open List

/-- what the library's checks must establish about `Q` -/
structure QFacts (Q : Kind → Str → Bool) : Prop where
  text : ∀ d, validText d = true → Q .text d = true
  comment : ∀ d, validComment d = true → Q .comment d = true
  cdata : ∀ d, validCData d = true → Q .cdata d = true
  pi : ∀ t d, validPITarget t = true → validPI t d = true → Q (.pi t) (storedPIData d) = true
  elem : ∀ n, validQName n = true → Q (.elem n) [] = true
  attr : ∀ n sp, validQName n = true → Q (.attr n sp) [] = true
  ref : ∀ n, validName n = true → (predefined.find? (·.1 == n)).isSome = true → Q (.ref n) [] = true
  pieces : ∀ v ps, parseAttrValue v = some ps → ∀ p ∈ ps, Q (pieceKind p).1 (pieceKind p).2 = true
  edit : ∀ k d0 d', Q k d0 = true → validData k d' = true → Q k (match k with | .pi _ => storedPIData d' | _ => d') = true
  split : ∀ k d off l r, (k = .text ∨ k = .cdata) → Q k d = true → CharData.splitText d off = some (l, r) → Q k l = true ∧ Q k r = true

variable {Q : Kind → Str → Bool} (hQ : QFacts Q)

include hQ in
/-- validated data stays validated; for `normList` under the hypothesis, true at every call, that the pending node `prev` is
    a Text node satisfying `Q` (merging appends data that `validText` accepted, which is what `QFacts.text` is for) -/
theorem norm_allQ :
    (∀ n, allQ Q n = true → allQ Q (normNode n).1 = true ∧ allQL Q (normNode n).2 = true) ∧
    (∀ prev l, (∀ p, prev = some p → p.kind = .text ∧ allQ Q p = true) → allQL Q l = true →
      allQL Q (normList prev l).1 = true ∧ allQL Q (normList prev l).2 = true) ∧
    (∀ l, allQL Q l = true → allQL Q (normAttrs l).1 = true ∧ allQL Q (normAttrs l).2 = true) := by
  have pending : ∀ (prev : Option Node), (∀ p, prev = some p → p.kind = .text ∧ allQ Q p = true) → allQL Q prev.toList = true := by
    intro prev hp
    cases prev with
    | none => rfl
    | some p => simp only [Option.toList, allQL_cons, allQL, Bool.and_true]; exact (hp p rfl).2
  have text_mk : ∀ (j : Nat) (d : Str) (as ks : List Node), allQ Q (.mk j .text d as ks) = true →
      ∀ q, some (Node.mk j .text d as ks) = some q → q.kind = .text ∧ allQ Q q = true :=
    fun _ _ _ _ h _ hq => by cases hq; exact ⟨rfl, h⟩
  apply normNode.mutual_induct
  · intro j d as ks nm ih1 ih2 h
    simp only [allQ_mk, Bool.and_eq_true] at h
    have h1 := ih1 h.1.2
    have h2 := ih2 nofun h.2
    rw [normNode_elem]
    simp only [allQ_mk, allQL_append, Bool.and_eq_true]
    exact ⟨⟨⟨h.1.1, h1.1⟩, h2.1⟩, h1.2, h2.2⟩
  · intro j d as ks k hk h
    rw [normNode_other hk]
    exact ⟨h, rfl⟩
  · intro prev hp _
    rw [normList_nil]
    exact ⟨pending prev hp, rfl⟩
  · intro prev j d as ks r hd ih hp h
    simp only [allQL_cons, Bool.and_eq_true] at h
    have := ih hp h.2
    rw [normList_empty hd]
    simp only [allQL_cons, Bool.and_eq_true]; exact ⟨this.1, h.1, this.2⟩
  · intro j d as ks r hd p hv ih hp h
    simp only [allQL_cons, Bool.and_eq_true] at h
    have hp' := hp p rfl
    have := ih (by
      intro q hq; cases hq
      exact ⟨by cases p; exact hp'.1, withData_allQ Q _ p (by rw [hp'.1]; exact hQ.text _ hv) hp'.2⟩) h.2
    rw [normList_merge hd hv]
    simp only [allQL_cons, Bool.and_eq_true]; exact ⟨this.1, h.1, this.2⟩
  · intro j d as ks r hd p hv ih hp h
    simp only [allQL_cons, Bool.and_eq_true] at h
    have := ih (text_mk j d as ks h.1) h.2
    rw [normList_cut hd hv]
    simp only [allQL_cons, Bool.and_eq_true]; exact ⟨⟨(hp p rfl).2, this.1⟩, this.2⟩
  · intro j d as ks r hd ih _ h
    simp only [allQL_cons, Bool.and_eq_true] at h
    rw [normList_first hd]
    exact ih (text_mk j d as ks h.1) h.2
  · intro prev j d as ks r nm ih1 ih2 hp h
    simp only [allQL_cons, Bool.and_eq_true] at h
    have h1 := ih1 h.1
    have h2 := ih2 nofun h.2
    rw [normList_elem]
    simp only [allQL_append, allQL_cons, Bool.and_eq_true]
    exact ⟨⟨pending prev hp, h1.1, h2.1⟩, h1.2, h2.2⟩
  · intro prev j k d as ks r hk1 hk2 ih hp h
    simp only [allQL_cons, Bool.and_eq_true] at h
    have h2 := ih nofun h.2
    rw [normList_other hk1 hk2]
    simp only [allQL_append, allQL_cons, Bool.and_eq_true]
    exact ⟨⟨pending prev hp, h.1, h2.1⟩, h2.2⟩
  · intro _; rw [normAttrs_nil]; exact ⟨rfl, rfl⟩
  · intro j k d as ks r ih1 ih2 h
    simp only [allQL_cons, allQ_mk, Bool.and_eq_true] at h
    have h1 := ih1 nofun h.1.2
    have h2 := ih2 h.2
    rw [normAttrs_cons]
    simp only [allQL_cons, allQ_mk, allQL_append, Bool.and_eq_true]
    exact ⟨⟨⟨⟨h.1.1.1, h.1.1.2⟩, h1.1⟩, h2.1⟩, h1.2, h2.2⟩

include hQ in
theorem normNode_allQ : (n : Node) → allQ Q n = true → allQ Q (normNode n).1 = true ∧ allQL Q (normNode n).2 = true :=
  (norm_allQ hQ).1
include hQ in
theorem normAttrs_allQ : (l : List Node) → allQL Q l = true → allQL Q (normAttrs l).1 = true ∧ allQL Q (normAttrs l).2 = true :=
  (norm_allQ hQ).2.2
include hQ in
theorem normList_allQ : (prev : Option Node) → (l : List Node) → (∀ p, prev = some p → p.kind = .text ∧ allQ Q p = true) →
    allQL Q l = true → allQL Q (normList prev l).1 = true ∧ allQL Q (normList prev l).2 = true :=
  (norm_allQ hQ).2.1

theorem mkItems_allQ : ∀ (ps : List Piece) (next : Nat), (∀ p ∈ ps, Q (pieceKind p).1 (pieceKind p).2 = true) → allQL Q (mkItems next ps).1 = true
  | [], _, _ => by simp [mkItems, allQL]
  | p :: r, next, h => by
    have ih := mkItems_allQ r (next + 1) (fun q hq => h q (by simp [hq]))
    simp only [mkItems, allQL_cons, allQ_mk, allQL, Bool.and_eq_true, Bool.and_true]
    exact ⟨h p (by simp), ih⟩

/-! ### an update at a node that is known: only that node's image has to be valid (its id occurs once) -/
theorem updateIn_allQ_at (i : Nat) (f : Node → Node) : (t : Node) → cnt i t ≤ 1 →
    (∀ m, findIn i t = some m → allQ Q m = true → allQ Q (f m) = true) → allQ Q t = true → allQ Q (updateIn i f t) = true := by
  intro t hc hf h
  have := updateInL_allQ Q i f [t] (fun n hid hs => hf n (by
    have := findInL_of_isSubL n [t] (by rwa [hid, cntL_singleton]) hs
    rwa [hid, findInL_singleton] at this)) (by rw [allQL_cons, h]; rfl)
  rwa [updateInL_cons, updateInL_nil, allQL_cons, allQL, Bool.and_true] at this

theorem update_valid_at (s : St) (i : Nat) (f : Node → Node) (nn : Node) (hnd : ∀ a, cntL a s.roots ≤ 1) (hfind : s.find i = some nn)
    (hf : allQ Q nn = true → allQ Q (f nn) = true) (hh : ValidInv Q s) : ValidInv Q (s.update i f) := by
  rw [validInv_roots] at hh ⊢
  rw [update_roots]
  refine updateInL_allQ Q i f s.roots (fun n hid hs => ?_) hh
  have := findInL_of_isSubL n s.roots (hnd n.id) hs
  rw [hid] at this
  cases this.symm.trans hfind
  exact hf

theorem append_one_allQ (x : Node) (hx : allQ Q x = true) (ks : List Node) (h : allQL Q ks = true) : allQL Q (ks ++ [x]) = true := by
  rw [allQL_append, allQL_cons, h, hx]; rfl

include hQ in
theorem Creatable.valid {k : Kind} {d : Str} (h : Creatable k d) : Q k d = true := by
  cases h with
  | elem h => exact hQ.elem _ h
  | text h => exact hQ.text _ h
  | comment h => exact hQ.comment _ h
  | cdata h => exact hQ.cdata _ h
  | pi h1 h2 => exact hQ.pi _ _ h1 h2
  | attr h => exact hQ.attr _ _ h
  | ref h1 h2 => exact hQ.ref _ h1 h2

include hQ in
theorem Move.valid {n : Nat} {s s' : St} (h : Move n s s') : Inv s → ValidInv Q s → ValidInv Q s' := by
  induction h with
  | refl s => exact fun _ hh => hh
  | trans m1 _ ih1 ih2 => exact fun hi hh => ih2 (hi.of_grow (m1.grow hi)) (ih1 hi hh)
  | handle s x => exact fun _ hh => hh.handles Q _
  | fresh s hc => exact fun _ hh => fresh_valid Q s _ _ (hc.valid hQ) hh
  | insert hins =>
    intro _ hh
    obtain ⟨hh1, hx⟩ := detach_valid Q hins.detached hh
    exact update_valid Q _ _ _ (mapKids_allQ Q _ (insertBeforeL_allQ Q _ _ (hx _ rfl))) hh1
  | @keep s i s1 x hd =>
    intro _ hh
    obtain ⟨hh1, hx⟩ := detach_valid Q hd hh
    exact hh1.add_detached Q (l := [x]) (by rw [allQL_cons, hx x rfl]; rfl) rfl
  | miss hd => exact fun _ hh => (detach_valid Q hd hh).1
  | attach hd _ _ =>
    intro _ hh
    obtain ⟨h2, hx⟩ := detach_valid Q hd hh
    exact update_valid Q _ _ _ (mapAttrs_allQ Q _ (append_one_allQ _ (hx _ rfl))) h2
  | @newAttr s e name v ps hq hp =>
    intro _ hh
    have ha : allQ Q (Node.mk s.next (.attr name true) [] [] (mkItems (s.next + 1) ps).1) = true := by
      simp only [allQ_mk, allQL, Bool.and_true, Bool.and_eq_true]
      exact ⟨hQ.attr name true hq, mkItems_allQ ps _ (hQ.pieces v ps hp)⟩
    exact (update_valid Q s e _ (mapAttrs_allQ Q _ (append_one_allQ _ ha)) hh).next Q _
  | @newValue s n nn _ _ v ps hf _ hp =>
    intro _ hh
    have h1 := update_valid Q s n _ (mapKids_allQ Q (fun _ => (mkItems s.next ps).1) (fun _ _ => mkItems_allQ ps _ (hQ.pieces v ps hp))) hh
    exact h1.add_detached Q (kids_allQ Q nn (found_valid Q s hh n nn hf)) rfl
  | @newData s n nn d hf hv =>
    intro hi hh
    have hn := found_valid Q s hh n nn hf
    exact update_valid_at s n _ nn hi.1 hf (fun _ => withData_allQ Q _ nn (hQ.edit nn.kind nn.data d (own_Q Q nn hn) hv) hn) hh
  | @split s n off nn l r hf hk hsp =>
    intro hi hh
    have hn := found_valid Q s hh n nn hf
    obtain ⟨ql, qr⟩ := hQ.split nn.kind nn.data off l r hk (own_Q Q nn hn) hsp
    have h1 := update_valid_at s n (Node.withData l) nn hi.1 hf (fun _ => withData_allQ Q _ nn ql hn) hh
    have hnew : allQ Q (Node.mk s.next nn.kind r [] []) = true := by simp [allQ_mk, allQL, qr]
    cases hp : (s.update n (Node.withData l)).parent n with
    | none => exact h1.add_detached Q (l := [_]) (by rw [allQL_cons, hnew]; rfl) rfl
    | some p =>
      refine (update_valid Q _ p _ (mapKids_allQ Q _ (fun ks hks => ?_)) h1).same Q rfl
      split
      · exact insertBeforeL_allQ Q _ _ hnew ks hks
      · exact append_one_allQ _ hnew ks hks
  | @normalize s e en hf =>
    intro _ hh
    have hen := found_valid Q s hh e en hf
    have h1 := update_valid Q s e (fun n => (normNode n).1) (fun n hn => (normNode_allQ hQ n hn).1) hh
    exact h1.add_detached Q (normNode_allQ hQ en hen).2 rfl

include hQ in
theorem step_valid (s : St) (op : Op) (hi : Inv s) (hh : ValidInv Q s) : ValidInv Q (step s op).1 :=
  (step_moves s op).valid hQ hi hh

end XmlRs.Dom
