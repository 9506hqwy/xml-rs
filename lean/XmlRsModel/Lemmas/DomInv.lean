import XmlRsModel.Lemmas.DomForest
import XmlRsModel.Lemmas.DomCases
/-! The invariant of the DOM model (`Inv`: no id twice, every id in use allocated) and what `St.update`, `St.detach`,
    `insertChild` and `removeChild` do to the multiset of ids. -/
namespace XmlRs.Dom
open List

/-- every node id occurs at most once in the forest (document tree and detached trees), and every
    id in use is below the allocation counter -/
def Inv (s : St) : Prop := (∀ a, cntL a s.roots ≤ 1) ∧ (∀ a, 0 < cntL a s.roots → a < s.next)

/-- `s'` holds no id more often than `s` does (nothing is duplicated, nothing is invented) -/
def NoNew (s s' : St) : Prop := s'.next = s.next ∧ ∀ a, cntL a s'.roots ≤ cntL a s.roots

/-- `s'` holds exactly the ids of `s` (nothing lost either) -/
def SameIds (s s' : St) : Prop := s'.next = s.next ∧ ∀ a, cntL a s'.roots = cntL a s.roots

theorem SameIds.noNew {s s' : St} (h : SameIds s s') : NoNew s s' := ⟨h.1, fun a => Nat.le_of_eq (h.2 a)⟩
theorem NoNew.refl (s : St) : NoNew s s := ⟨rfl, fun _ => Nat.le_refl _⟩
theorem SameIds.refl (s : St) : SameIds s s := ⟨rfl, fun _ => rfl⟩
theorem NoNew.trans {a b c : St} (h1 : NoNew a b) (h2 : NoNew b c) : NoNew a c :=
  ⟨h2.1.trans h1.1, fun x => Nat.le_trans (h2.2 x) (h1.2 x)⟩
theorem SameIds.trans {a b c : St} (h1 : SameIds a b) (h2 : SameIds b c) : SameIds a c :=
  ⟨h2.1.trans h1.1, fun x => (h2.2 x).trans (h1.2 x)⟩

theorem Inv.of_noNew {s s' : St} (hi : Inv s) (h : NoNew s s') : Inv s' := by
  refine ⟨fun a => Nat.le_trans (h.2 a) (hi.1 a), fun a ha => ?_⟩
  rw [h.1]; exact hi.2 a (Nat.lt_of_lt_of_le ha (h.2 a))

theorem roots_eq (s : St) : s.roots = s.doc :: s.detached := rfl

theorem cntL_roots (s : St) (a : Nat) : cntL a s.roots = cnt a s.doc + cntL a s.detached := by
  rw [roots_eq, cntL_cons]

theorem update_roots (s : St) (i : Nat) (f : Node → Node) : (s.update i f).roots = updateInL i f s.roots := by
  simp [St.update, St.roots, updateInL]

theorem update_next (s : St) (i : Nat) (f : Node → Node) : (s.update i f).next = s.next := rfl

theorem update_count (s : St) (i : Nat) (f : Node → Node) (nn : Node) (a lost extra : Nat)
    (hnd : ∀ a, cntL a s.roots ≤ 1) (hfind : s.find i = some nn)
    (hf : cnt a (f nn) + lost = cnt a nn + extra) :
    cntL a (s.update i f).roots + lost = cntL a s.roots + extra := by
  rw [update_roots]
  exact updateInL_count i f nn a lost extra hf s.roots hnd hfind

theorem update_absent (s : St) (i : Nat) (f : Node → Node) (h : s.find i = none) :
    (s.update i f).roots = s.roots := by
  rw [update_roots]
  exact updateInL_absent i f _ ((findInL_eq_none_iff i _).mp h)

/-- an update that adds `extra` occurrences of `a` to the node it is applied to: if the node is there they are
    added, if it is not nothing happens -/
theorem update_le (s : St) (i : Nat) (f : Node → Node) (a extra : Nat) (hnd : ∀ a, cntL a s.roots ≤ 1)
    (hf : ∀ n, cnt a (f n) = cnt a n + extra) :
    cntL a (s.update i f).roots ≤ cntL a s.roots + extra := by
  cases hfind : s.find i with
  | none => rw [update_absent s i f hfind]; omega
  | some nn => have := update_count s i f nn a 0 extra hnd hfind (hf nn); omega

theorem update_sameIds (s : St) (i : Nat) (f : Node → Node) (hnd : ∀ a, cntL a s.roots ≤ 1)
    (hf : ∀ n a, cnt a (f n) = cnt a n) : SameIds s (s.update i f) := by
  refine ⟨rfl, fun a => ?_⟩
  cases hfind : s.find i with
  | none => rw [update_absent s i f hfind]
  | some nn => exact update_count s i f nn a 0 0 hnd hfind (congrArg (· + 0) (hf nn a))

theorem cnt_withData (d : Str) (n : Node) (a : Nat) : cnt a (n.withData d) = cnt a n := by
  cases n with
  | mk j k d0 as ks => simp [Node.withData, cnt_mk]

theorem cntL_insertBeforeL (x : Node) (ref : Option Nat) (l : List Node) (a : Nat) :
    cntL a (insertBeforeL x ref l) = cntL a l + cnt a x := by
  obtain ⟨p, q, rfl, h⟩ := insertBeforeL_split x ref l
  rw [h, cntL_append, cntL_append, cntL_cons]; omega

theorem cnt_mapKids (g : List Node → List Node) (n : Node) (a : Nat) :
    cnt a (n.mapKids g) + cntL a n.kids = cnt a n + cntL a (g n.kids) := by
  cases n with
  | mk j k d as ks => simp [Node.mapKids, Node.kids, cnt_mk]; omega

theorem kids_mapKids (g : List Node → List Node) (n : Node) : (n.mapKids g).kids = g n.kids := by cases n; rfl

theorem cntL_kids_le (a : Nat) (t : Node) : cntL a t.kids ≤ cnt a t := by
  cases t with
  | mk j k d as ks => rw [cnt_mk]; simp only [Node.kids]; omega

theorem cnt_mapAttrs (g : List Node → List Node) (n : Node) (a : Nat) :
    cnt a (n.mapAttrs g) + cntL a n.attrs = cnt a n + cntL a (g n.attrs) := by
  cases n with
  | mk j k d as ks => simp [Node.mapAttrs, Node.attrs, cnt_mk]; omega

theorem removeIn_none_of_absent (i : Nat) (t : Node) (h : cnt i t = 0) : removeIn i t = (t, none) := by
  have h2 := (remove_snd i).1 t
  rw [← findIn_below (by simpa using id_ne_of_cnt_zero h), findIn_none i t h] at h2
  exact Prod.ext (removeIn_none_eq (Prod.ext rfl h2)) h2

theorem filter_root_absent (i : Nat) (l : List Node) (h : cntL i l = 0) : l.filter (·.id != i) = l := by
  induction l with
  | nil => rfl
  | cons t r ih =>
    rw [cntL_cons] at h
    rw [filter_cons_of_pos (by simpa using id_ne_of_cnt_zero (t := t) (by omega)), ih (by omega)]

/-- among roots with pairwise distinct ids, `removeInL` takes the root `c` off the list as `detach` does -/
theorem removeInL_root (c : Nat) (l : List Node) (n : Node) (hnd : ∀ a, cntL a l ≤ 1) (hf : l.find? (·.id == c) = some n) :
    removeInL c l = (l.filter (·.id != c), some n) := by
  induction l with
  | nil => cases hf
  | cons t r ih =>
    have hc := hnd c
    rw [cntL_cons] at hc
    by_cases ht : (t.id == c) = true
    · simp only [find?_cons, ht, Option.some.injEq] at hf; subst hf
      have := cnt_id_pos t
      rw [beq_iff_eq.mp ht] at this
      rw [removeInL_hit ht, filter_cons_of_neg (by simpa using ht), filter_root_absent c r (by omega)]
    · simp only [find?_cons, ht] at hf
      have hr := ih (distinct_tail hnd) hf
      have := removeInL_some_pos hr
      rw [removeInL_out ht (removeIn_none_of_absent c t (by omega)), filter_cons_of_pos (by simpa using ht), hr]

/-- whatever `detach` takes out was a subtree of the state -/
theorem detach_taken {s s1 : St} {i : Nat} {x : Node} (h : s.detach i = (s1, some x)) : isSubL x s.roots := by
  rw [roots_eq, isSubL_cons]
  rcases detach_cases h with ⟨n, hF, _, ⟨⟩⟩ | ⟨d', n, hR, _, ⟨⟩⟩ | ⟨d', det', _, hD, _⟩
  · exact .inr (isSubL_of_mem x _ (mem_of_find?_eq_some hF))
  · exact .inl (removeIn_taken hR)
  · exact .inr (removeInL_taken hD)

/-- DETACH: what is taken out and what stays add up to what there was -/
theorem detach_some {s s1 : St} {i : Nat} {x : Node} (hnd : ∀ a, cntL a s.roots ≤ 1) (h : s.detach i = (s1, some x)) :
    s1.next = s.next ∧ x.id = i ∧ ∀ a, cntL a s1.roots + cnt a x = cntL a s.roots := by
  refine ⟨detach_next h, ?_⟩
  rcases detach_cases h with ⟨n, hF, rfl, ⟨⟩⟩ | ⟨d', n, hR, rfl, ⟨⟩⟩ | ⟨d', det', _, hD, rfl⟩
  · have hc := removeInL_some_count (removeInL_root i _ x (distinct_tail hnd) hF)
    exact ⟨hc.1, fun a => by have := hc.2 a; simp only [cntL_roots]; omega⟩
  · have hc := removeIn_some_count hR
    exact ⟨hc.1, fun a => by have := hc.2 a; simp only [cntL_roots]; omega⟩
  · have hc := removeInL_some_count hD
    exact ⟨hc.1, fun a => by have := hc.2 a; simp only [cntL_roots]; omega⟩

theorem detach_none {s s1 : St} {i : Nat} (h : s.detach i = (s1, none)) : s1 = s := by
  rcases detach_cases h with ⟨_, _, _, ⟨⟩⟩ | ⟨_, _, _, _, ⟨⟩⟩ | ⟨_, det', _, hD, rfl⟩
  rw [removeInL_none_eq hD]

theorem detach_distinct {s s1 : St} {i : Nat} {x : Option Node} (hnd : ∀ a, cntL a s.roots ≤ 1) (h : s.detach i = (s1, x))
    (a : Nat) : cntL a s1.roots ≤ 1 := by
  cases x with
  | none => rw [detach_none h]; exact hnd a
  | some n => have := (detach_some hnd h).2.2 a; have := hnd a; omega

/-- for any node but the document node, `detach` is `removeInL` on the forest -/
theorem detach_eq_removeInL {s s1 : St} {c : Nat} {x : Option Node} (hnd : ∀ a, cntL a s.roots ≤ 1) (hne : s.doc.id ≠ c)
    (h : s.detach c = (s1, x)) : s1.roots = (removeInL c s.roots).1 ∧ x = (removeInL c s.roots).2 := by
  have hid : ¬(s.doc.id == c) = true := by simpa using hne
  rw [roots_eq s]
  rcases detach_cases h with ⟨n, hF, rfl, rfl⟩ | ⟨d', n, hR, rfl, rfl⟩ | ⟨d', det', hR, hD, rfl⟩
  · -- a detached root: it is not in the document tree
    have hD := removeInL_root c _ n (distinct_tail hnd) hF
    have := removeInL_some_pos hD
    have := hnd c
    rw [cntL_roots] at this
    rw [removeInL_out hid (removeIn_none_of_absent c s.doc (by omega)), hD]
    exact ⟨rfl, rfl⟩
  · rw [removeInL_in hid hR]; exact ⟨rfl, rfl⟩
  · rw [removeInL_out hid hR, hD]; exact ⟨rfl, rfl⟩

/-- what `detach` takes out is the node `find` returns (for any node but the document node itself) -/
theorem detach_find {s s1 : St} {i : Nat} {x : Option Node} (hnd : ∀ a, cntL a s.roots ≤ 1) (hne : s.doc.id ≠ i)
    (h : s.detach i = (s1, x)) : s.find i = x := by
  rw [(detach_eq_removeInL hnd hne h).2]; exact ((remove_snd i).2 s.roots).symm

/-- under the invariant, what `insertChild` takes out is the node it found, and the receiver is not inside it -/
theorem Inserts.taken {s : St} {p c : Nat} {ref : Option Nat} {pn cn : Node} {s1 : St} {x : Node}
    (h : Inserts s p c ref pn cn s1 x) (hi : Inv s) : cn = x ∧ s.doc.id ≠ c ∧ cnt p cn = 0 := by
  have hne : s.doc.id ≠ c := fun he => by have := h.notDoc; rw [he] at this; simp at this
  have hfx := detach_find hi.1 hne h.detached
  rw [h.child] at hfx
  have hanc := h.noCycle
  unfold St.isAncestorOrSelf at hanc
  rw [h.child] at hanc
  exact ⟨Option.some.inj hfx, hne, List.count_eq_zero.mpr (by simpa using hanc)⟩

/-- a successful `insertBefore` / `appendChild` MOVES the node: the forest holds exactly the ids it
    held before (nothing duplicated, nothing lost) -/
theorem Inserts.sameIds {s : St} {p c : Nat} {ref : Option Nat} {pn cn : Node} {s1 : St} {x : Node}
    (h : Inserts s p c ref pn cn s1 x) (hi : Inv s) :
    SameIds s (s1.update p (Node.mapKids (insertBeforeL x (adjustRef pn c ref)))) := by
  obtain ⟨rfl, _, hx⟩ := h.taken hi
  obtain ⟨hn, _, hcnt⟩ := detach_some hi.1 h.detached
  have := findInL_some_mem h.parent
  obtain ⟨pn1, hpn⟩ := findInL_of_pos p s1.roots (by have := hcnt p; omega)
  refine ⟨(update_next ..).trans hn, fun a => ?_⟩
  have := update_count s1 p (Node.mapKids (insertBeforeL cn (adjustRef pn c ref))) pn1 a 0 (cnt a cn)
    (detach_distinct hi.1 h.detached) hpn (by
      have := cnt_mapKids (insertBeforeL cn (adjustRef pn c ref)) pn1 a
      rw [cntL_insertBeforeL] at this
      omega)
  have := hcnt a
  omega

theorem insertChild_sameIds {s s' : St} {p c : Nat} {ref : Option Nat} {r : Res} (hi : Inv s)
    (h : insertChild s p c ref = (s', r)) : SameIds s s' := by
  rcases insertChild_cases s p c ref with ⟨_, he⟩ | ⟨_, _, _, _, hins, he⟩ <;> cases he.symm.trans h
  · exact SameIds.refl s
  · exact hins.sameIds hi

theorem detach_keep_sameIds {s s1 : St} {c : Nat} {x : Node} (hi : Inv s) (hd : s.detach c = (s1, some x)) :
    SameIds s { s1 with detached := s1.detached ++ [x] } := by
  obtain ⟨hn, _, hcnt⟩ := detach_some hi.1 hd
  refine ⟨hn, fun a => ?_⟩
  have := hcnt a
  simp only [cntL_roots] at this ⊢
  rw [cntL_append, cntL_cons, cntL_nil]
  omega

theorem removeChild_sameIds {s s' : St} {p c : Nat} {r : Res} (hi : Inv s) (h : removeChild s p c = (s', r)) :
    SameIds s s' := by
  rcases removeChild_cases s p c with ⟨_, he⟩ | ⟨_, s1, x, _, _, _, hd, he⟩ <;> cases he.symm.trans h
  · exact SameIds.refl s
  · exact detach_keep_sameIds hi hd

theorem Inv.of_sameIds {s s' : St} (hi : Inv s) (h : SameIds s s') : Inv s' := hi.of_noNew h.noNew

end XmlRs.Dom
