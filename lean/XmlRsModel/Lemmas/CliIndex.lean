import XmlRsModel.Cli
/-! The child numbering the `xe` rewrite uses (`Cli.kidIdx`) is the numbering of the XPath tree
    (`XPath.buildItems`). -/
namespace XmlRs.Cli
open XmlRs XmlRs.XPath

theorem textOf_none_iff (t : EntTable) (w : Bool) (x : Item) : textOf t w x = none ↔ isTextLike x = false := by
  cases x <;> simp [textOf, isTextLike]

/-- when a run is open the start is at least 1, so that `n - 1` in `kidIdx` does not truncate -/
theorem kidIdx_shift (k : Nat) : ∀ (l : List Item) (n : Nat) (p : Bool), (p = true → 1 ≤ n) →
    kidIdx (n + k) p l = (kidIdx n p l).map (· + k)
  | [], _, _, _ => by simp [kidIdx]
  | x :: r, n, p, hp => by
    simp only [kidIdx]
    cases ht : isTextLike x with
    | true =>
      simp only [if_true, List.map_cons]
      cases p with
      | true =>
        have := hp rfl
        simp only [if_true]
        rw [kidIdx_shift k r n true (fun _ => this)]
        congr 1; omega
      | false =>
        simp only [Bool.false_eq_true, if_false]
        rw [Nat.add_right_comm n k 1, kidIdx_shift k r (n + 1) true (fun _ => by omega)]
    | false =>
      simp only [Bool.false_eq_true, if_false, List.map_cons]
      rw [Nat.add_right_comm n k 1, kidIdx_shift k r (n + 1) false nofun]

/-- NUMBERING: the child index `kidIdx` gives an item that is not character data is the position of
    the node `buildItem` makes of it in the child list the XPath evaluator sees (`buildItems`: maximal
    runs of character data are one text node each).  Stated for a numbering that starts at any `m`, an open
    run counting as one child already numbered: that is what the rest of the list sees after each item. -/
theorem kidIdx_is_xpath_index (cfg : BuildCfg) (scope : List (Str × Str)) (kids : List Item) :
    ∀ (pending : Option Str) (ns : List XNode), buildItems cfg scope kids pending = .ok ns →
      ∀ (m j : Nat) (x : Item) (idx : Nat), kids[j]? = some x → isTextLike x = false →
        (kidIdx (m + if pending.isSome then 1 else 0) pending.isSome kids)[j]? = some idx →
        ∃ i node, idx = m + i ∧ buildItem cfg scope x = .ok node ∧ ns[i]? = some node := by
  induction kids with
  | nil => intro _ _ _ _ j _ _ hj; cases hj
  | cons it r ih =>
    intro pending ns h m j x idx hj hx hidx
    unfold buildItems at h
    unfold kidIdx at hidx
    cases ht : textOf cfg.ents cfg.wsQuirk it with
    | some res =>
      have hti : isTextLike it = true := by
        rw [← Bool.not_eq_false, ← textOf_none_iff cfg.ents cfg.wsQuirk, ht]; exact Option.some_ne_none _
      rw [ht] at h
      rw [if_pos hti] at hidx
      cases j with
      | zero => cases hj; rw [hti] at hx; cases hx
      | succ j =>
        cases res with
        | error e => cases h
        | ok s =>
          refine ih _ ns h m j x idx hj hx ?_
          rw [← hidx, List.getElem?_cons_succ]
          cases pending <;> rfl
    | none =>
      have hti : isTextLike it = false := (textOf_none_iff _ _ it).1 ht
      rw [ht] at h
      rw [if_neg (by rw [hti]; exact Bool.false_ne_true)] at hidx
      cases hb : buildItem cfg scope it with
      | error e => rw [hb] at h; cases h
      | ok n =>
        cases hr : buildItems cfg scope r none with
        | error e => rw [hb, hr] at h; cases h
        | ok ns' =>
          rw [hb, hr] at h
          cases h
          cases j with
          | zero =>
            cases hj; cases hidx
            exact ⟨_, n, rfl, hb, by cases pending <;> rfl⟩
          | succ j =>
            cases pending with
            | none =>
              obtain ⟨i, node, rfl, hn, hi⟩ := ih none ns' hr (m + 1) j x idx hj hx hidx
              exact ⟨i + 1, node, by omega, hn, hi⟩
            | some s =>
              obtain ⟨i, node, rfl, hn, hi⟩ := ih none ns' hr (m + 2) j x idx hj hx hidx
              exact ⟨i + 2, node, by omega, hn, hi⟩
end XmlRs.Cli
