import XmlRsModel.Lemmas.XRunsHeads
/-! The parts of the main induction that need no induction: what follows an operand, a step, an argument; the path
    separators; the loop of minus signs; `expr` on `)`. -/
namespace XmlRs.XLex
open XmlRs XmlRs.XPath XmlRs.Lex
open Gen.XPath

theorem slashText_starts (ds : Bool) : Starts (· == '/') (slashText ds) := by cases ds <;> exact .cons _ rfl

theorem runs_slash (ds : Bool) (Y : Str) (hY : Stops (· == '/') Y) : Runs env slashG (slashText ds ++ Y) (.ok (.leaf (slashText ds)) Y) := by
  cases ds with
  | true => exact Runs.alt (RunsAlt.hit (Runs.tag_ok ['/', '/'] Y))
  | false => exact Runs.alt (RunsAlt.skip (tag_fails_second _ _ hY) (RunsAlt.hit (Runs.tag_ok ['/'] Y)))

theorem slash_fails {T : Str} (h : Stops (· == '/') T) : Runs env slashG T .fail :=
  Runs.alt (RunsAlt.skip (runs_tag_fail_head h) (RunsAlt.skip (runs_tag_fail_head h) (RunsAlt.nil _)))

theorem runs_slash_sep {w1 w2 : Str} (h1 : okWs w1 = true) (h2 : okWs w2 = true) (ds : Bool) {R : Str} (hR : Starts stepStart R) :
    Runs env (G.seq [G.cls0 P.isSpace, slashG, G.cls0 P.isSpace]) (w1 ++ (slashText ds ++ (w2 ++ R)))
      (.ok (.seq [.leaf w1, .leaf (slashText ds), .leaf w2]) R) :=
  Runs.seq3 (runs_cls0 h1 (((slashText_starts ds).append _).stops_space (on_space rfl)))
    (runs_slash ds _ (.ws (on_space rfl) h2 fun _ => hR.stops_eq (by decide))) (runs_cls0 h2 (hR.stops_space stepStart_space))

theorem primary_fails_slash (ds : Bool) (R : Str) : Runs env (.nt N.primary_expr) (slashText ds ++ R) .fail := by
  cases ds <;> exact primary_fails_char (by decide) _

theorem cont_of_slash {w : Str} (hw : okWs w = true) (ds : Bool) (R : Str) : Cont 9 (w ++ (slashText ds ++ R)) := by
  cases ds <;> exact .of_head 9 hw (by decide) (by decide) (by decide) (fun _ => by decide) _

theorem cont_reltail (t : CRelTail) (ht : okRelTail t = true) {Y : Str} (hY : Cont 8 Y) : Cont 9 (t.str ++ Y) := by
  cases t with
  | nil => exact hY.mono (by omega)
  | cons w1 ds w2 s t' =>
    simp only [CRelTail.str, List.append_assoc]
    exact cont_of_slash (okRelTail_cons.mp ht).1 ds _

theorem primary_fails_on_rel (rel : CRel) (hrel : okRel rel = true) {Y : Str} (hY : Cont 8 Y) :
    Runs env (.nt N.primary_expr) (rel.str ++ Y) .fail := by
  cases rel with
  | mk f rest =>
    simp only [okRel, Bool.and_eq_true] at hrel
    simpa [CRel.str] using primary_fails_on_step f hrel.1 (nameCont_of_cont (by omega) (cont_reltail rest hrel.2 hY))

theorem numEnd_of_cont {l : Nat} {Y : Str} (h : Cont l Y) : Stops numStart Y :=
  h.stops_nc.mono fun c hc => by simp [digit_of_not_nameChar c hc, beq_false_of_class hc (x := '.') (by decide)]

theorem cont_preds (preds : CPreds) (h : okPreds preds = true) {Z : Str} (hZ : Cont 9 Z) : Cont 10 (preds.str ++ Z) := by
  cases preds with
  | nil => exact hZ.mono (by omega)
  | cons w w1 e w2 t =>
    simp only [CPreds.str, List.append_assoc, List.cons_append]
    exact .of_head 10 (okPreds_cons.mp h).1 (by decide) (by decide) (by decide) (fun _ => by decide) _

theorem cont_tail {l : Nat} {b : Bool} (t : CXTail) (ht : XPath.okTail l (l + 1) b t = true) {Y : Str} (hY : Cont l Y) :
    Cont (l + 1) (t.str ++ Y) := by
  cases t with
  | nil => exact hY.mono (Nat.le_succ l)
  | cons w1 op w2 e t' =>
    obtain ⟨hop, hw1, hsp, _⟩ := okTail_cons.mp ht
    simp only [CXTail.str, List.append_assoc]
    exact cont_of_op op (l + 1) (by omega) hw1 hsp _

/-- an operand that ends with a bare `/`: the operator behind it is one that starts no step -/
theorem rootSafe_tail {l lo : Nat} {b : Bool} (t : CXTail) (ht : XPath.okTail l lo b t = true) {Y : Str}
    (hR : endsRootTail b t = true → RootSafe Y) (hb : b = true) : RootSafe (t.str ++ Y) := by
  cases t with
  | nil => exact hR hb
  | cons w1 op w2 e t' =>
    obtain ⟨_, hw1, _, hroot, _⟩ := okTail_cons.mp ht
    simp only [CXTail.str, List.append_assoc]
    exact rootSafe_of_op op (hroot hb) hw1 _

theorem cont_argtail (t : CArgTail) (ht : okArgTail t = true) {w3 : Str} (h3 : okWs w3 = true) (Y : Str) :
    Cont 0 (t.str ++ (w3 ++ ')' :: Y)) ∧ RootSafe (t.str ++ (w3 ++ ')' :: Y)) := by
  cases t with
  | nil => exact ⟨cont_of_closer 0 h3 ')' (.inl rfl) Y, rootSafe_of_head h3 (by decide) Y⟩
  | cons w1 w2 e t' =>
    have h1 := (okArgTail_cons.mp ht).1
    simp only [CArgTail.str, List.append_assoc, List.cons_append]
    exact ⟨cont_of_closer 0 h1 ',' (.inr (.inr rfl)) _, rootSafe_of_head h1 (by decide) _⟩

theorem args_not_space (args : CArgs) (hargs : okArgs args = true) {w3 : Str} (hw3 : args = .none → w3 = []) (Y : Str) :
    Stops P.isSpace (args.str ++ (w3 ++ ')' :: Y)) := by
  cases args with
  | none => rw [hw3 rfl]; exact Stops.cons _ (by decide)
  | some a r =>
    simp only [okArgs, Bool.and_eq_true] at hargs
    simp only [CArgs.str, List.append_assoc]
    exact ((x_starts a 0 hargs.1).append _).stops_space (exprStart_space 0)

theorem runs_argument {I Y : Str} {c : CST} (h : Runs env (.nt (ntOfLevel 0)) I (.ok c Y)) :
    Runs env (.nt N.argument) I (.ok (.node N.argument (.node N.expr c)) Y) :=
  Runs.nt_of argument_prod (runs_expr h)

theorem endsRoot_layer {e : CX} {l : Nat} (hr : endsRoot e = true) (h : okAt l e = true) : l ≤ 8 := by
  cases e
  case chain | unary | union | pathRoot => simp only [okAt, Bool.and_eq_true, beq_iff_eq, decide_eq_true_eq] at h; omega
  all_goals cases hr

theorem runs_minus {R : Str} (hR : Starts (exprStart 7) R) : ∀ ms : List Str, ms.all okWs = true →
    RunsMany env (G.seq [G.tag ['-'], G.cls0 P.isSpace]) (minusText ms ++ R) (.ok (cstMinus ms) R)
  | [], _ => RunsMany.stop (Runs.seq_fail_head (hR.tag_fails (exprStart_minus (Nat.le_refl 7)) _))
  | w :: r, h => by
    simp only [List.all_cons, Bool.and_eq_true] at h
    have hst : Stops P.isSpace (minusText r ++ R) := by
      cases r with
      | nil => exact hR.stops_space (exprStart_space 7)
      | cons w' r' => exact Stops.cons _ (by decide)
    simp only [minusText, cstMinus, List.map_cons, List.cons_append, List.append_assoc]
    refine RunsMany.step (Runs.seq2 (Runs.tag_ok ['-'] _) (runs_cls0 h.1 hst)) ?_ (runs_minus hR r h.2)
    simp only [List.length_cons, List.length_append]; omega

theorem layer_fails (l : Nat) (hl : l ≤ 5 ∨ l = 7) {I : Str} (h : Runs env (.nt (ntOfLevel (l + 1))) I .fail) :
    Runs env (.nt (ntOfLevel l)) I .fail :=
  Runs.nt_fail_of (layer_prod l hl) (Runs.seq_fail_head h)

/-- how an empty argument list is recognised -/
theorem expr_fails_rpar (R : Str) : Runs env (.nt N.expr) (')' :: R) .fail := by
  have h8 : Runs env (.nt (ntOfLevel 8)) (')' :: R) .fail :=
    Runs.nt_fail_of path_prod (Runs.alt (RunsAlt.skip (Runs.seq_fail_head (filter_fails_of_primary (primary_fails_char (by decide) R)))
      (RunsAlt.skip (Runs.seq_fail_head (Runs.seq_fail_head (slash_fails (Stops.cons _ (by decide)))))
      (RunsAlt.skip (rel_fails (Stops.cons _ (by decide)) (Stops.cons _ (by decide))) (RunsAlt.skip (tag_fails_ne (by decide)) (RunsAlt.nil _))))))
  have h6 : Runs env (.nt (ntOfLevel 6)) (')' :: R) .fail :=
    Runs.nt_fail_of unary_prod (seq_fail_second (Runs.many (RunsMany.stop (Runs.seq_fail_head (tag_fails_ne (by decide)))))
      (layer_fails 7 (.inr rfl) h8))
  exact Runs.nt_fail_of expr_prod (layer_fails 0 (.inl (by omega)) (layer_fails 1 (.inl (by omega)) (layer_fails 2 (.inl (by omega))
    (layer_fails 3 (.inl (by omega)) (layer_fails 4 (.inl (by omega)) (layer_fails 5 (.inl (by omega)) h6))))))

end XmlRs.XLex
