import XmlRsModel.XPath.Concrete
import XmlRsModel.Lemmas.RunsDtdLex
/-! Completeness of the lexical productions of the XPath grammar generated from the source (`Gen/XPathGrammar.lean`):
    names, literals, numbers.  Two notions carry the later files: `Starts p s` (`RunsLex.lean`) says which alternatives
    cannot even begin, `After p Z` says where a loop or an optional part ends.  At the end: what the side conditions
    `ok…` of spellings (`XPath/Concrete.lean`) say, constructor by constructor. -/
namespace XmlRs.XLex
open XmlRs XmlRs.XPath XmlRs.Lex
open Gen.XPath

variable {ev : Env}

theorem seq_fail_second {g1 g2 : G} {gs : List G} {s r : Str} {c : CST} (h1 : Runs ev g1 s (.ok c r)) (h2 : Runs ev g2 r .fail) :
    Runs ev (.seq (g1 :: g2 :: gs)) s .fail :=
  Runs.seq_fail (RunsSeq.fail_tail h1 (RunsSeq.fail_head h2))

theorem on_space {p : Char → Bool} (h : (p ' ' || p '\t' || p '\r' || p '\n') = false) (c : Char) (hc : P.isSpace c = true) : p c = false := by
  simp only [Bool.or_eq_false_iff] at h
  obtain rfl | rfl | rfl | rfl := C15.space_cases c hc
  · exact h.1.1.1
  · exact h.1.1.2
  · exact h.1.2
  · exact h.2

theorem stops_or {p q : Char → Bool} {Z : Str} (h : Stops (fun c => p c || q c) Z) : Stops p Z ∧ Stops q Z :=
  ⟨h.mono fun _ hc => (Bool.or_eq_false_iff.mp hc).1, h.mono fun _ hc => (Bool.or_eq_false_iff.mp hc).2⟩

def After (p : Char → Bool) (Z : Str) : Prop := ∃ w T, Z = w ++ T ∧ okWs w = true ∧ Stops P.isSpace T ∧ Stops p T

theorem After.of_head {p : Char → Bool} {w : Str} (hw : okWs w = true) {c : Char} (hs : P.isSpace c = false) (hc : p c = false) (R : Str) :
    After p (w ++ c :: R) :=
  ⟨w, c :: R, rfl, hw, Stops.cons _ hs, Stops.cons _ hc⟩

theorem After.nil {p : Char → Bool} : After p [] := ⟨[], [], rfl, rfl, Stops.nil, Stops.nil⟩

theorem After.mono {p q : Char → Bool} {Z : Str} (h : After p Z) (hpq : ∀ c, p c = false → q c = false) : After q Z := by
  obtain ⟨w, T, e, hw, hs, hp⟩ := h
  exact ⟨w, T, e, hw, hs, hp.mono hpq⟩

theorem After.stops {p : Char → Bool} {Z : Str} (h : After p Z) (hp : ∀ c, P.isSpace c = true → p c = false) : Stops p Z := by
  obtain ⟨w, T, rfl, hw, _, hT⟩ := h
  exact .ws hp hw fun _ => hT

theorem After.fails {p : Char → Bool} {Z : Str} (h : After p Z) {g : G} (hg : ∀ T, Stops p T → Runs ev g T .fail) (rest : List G) :
    RunsSeq ev (G.cls0 P.isSpace :: g :: rest) Z .fail := by
  obtain ⟨w, T, rfl, hw, hs, hp⟩ := h
  exact RunsSeq.fail_tail (runs_cls0 hw hs) (RunsSeq.fail_head (hg T hp))

theorem After.tag_fails {x : Char} {Z : Str} (h : After (· == x) Z) (t : Str) (rest : List G) :
    RunsSeq ev (G.cls0 P.isSpace :: G.tag (x :: t) :: rest) Z .fail :=
  h.fails (fun _ hT => runs_tag_fail_head hT) rest

theorem digit_class {c : Char} (h : P.isDigit c = true) : P.isNameChar c = true ∧ P.isNameStartChar c = false := by
  simp only [P.isDigit, Bool.and_eq_true, decide_eq_true_eq] at h
  have h : 48 ≤ c.toNat ∧ c.toNat ≤ 57 := h
  have key : ∀ k, k < 10 → Gen.isNameChar (48 + k) = true ∧ Gen.isNameStartChar (48 + k) = false := by decide
  have := key (c.toNat - 48) (by omega)
  rwa [show 48 + (c.toNat - 48) = c.toNat by omega] at this

theorem digit_of_not_nameChar (c : Char) (h : P.isNameChar c = false) : P.isDigit c = false := by
  cases hd : P.isDigit c with
  | false => rfl
  | true => rw [(digit_class hd).1] at h; cases h

theorem digit_dot : P.isDigit '.' = false := by decide

def cstNc (a : Str) : CST :=
  .node N.ncname (.seq [.leaf (a.take 1), if a.drop 1 = [] then .seq [] else .leaf (a.drop 1)])

def cstQN (q : QN) : CST :=
  match q.pre with
  | none => .node N.qname (cstNc q.loc)
  | some p => .node N.qname (.node N.prefixed_name (.seq [cstNc p, .seq [.leaf [':'], cstNc q.loc]]))

theorem nameProds : NameProds env N.ncname N.prefixed_name N.qname := ⟨rfl, rfl, rfl⟩

theorem runs_ncname {a r : Str} (ha : okNc a = true) (hr : Stops ncRestC r) :
    Runs env (.nt N.ncname) (a ++ r) (.ok (cstNc a) r) :=
  nameProds.runs_ncname ha hr

theorem runs_ncname_fail {r : Str} (hr : Stops ncStart r) : Runs env (.nt N.ncname) r .fail :=
  nameProds.runs_ncname_fail hr

theorem runs_qname {q : QN} {r : Str} (hq : okQN q = true) (hr : Stops P.isNameChar r) :
    Runs env (.nt N.qname) (q.text ++ r) (.ok (cstQN q) r) :=
  nameProds.runs_qname hq hr

theorem runs_qname_colon {loc : Str} (h : okNc loc = true) (c : Char) (hc : ncStart c = false) (Y : Str) :
    Runs env (.nt N.qname) (loc ++ (':' :: c :: Y)) (.ok (cstQN ⟨none, loc⟩) (':' :: c :: Y)) :=
  nameProds.runs_qname_local h (Stops.cons _ ncRest_colon) (seq_fail_second (Runs.tag_ok [':'] _) (runs_ncname_fail (Stops.cons _ hc)))

theorem runs_qname_fail {r : Str} (hr : Stops ncStart r) : Runs env (.nt N.qname) r .fail :=
  nameProds.runs_qname_fail hr

def cstLit (q : Char) (s : Str) : CST := .node N.literal (.seq [.leaf [q], .leaf s, .leaf [q]])

theorem literal_prod : env N.literal =
    G.alt [G.seq [G.tag ['"'], G.cls0 (· != '"'), G.tag ['"']], G.seq [G.tag ['\''], G.cls0 (· != '\''), G.tag ['\'']]] := rfl

theorem runs_literal {q : Char} (hq : isQuote q = true) {s : Str} (hs : s.all (· != q) = true) (Y : Str) :
    Runs env (.nt N.literal) (q :: (s ++ q :: Y)) (.ok (cstLit q s) Y) := by
  refine Runs.nt_of literal_prod (runs_two_quotes_dq hq ?_)
  rcases isQuote_cases hq with rfl | rfl
  · exact runs_cls0 hs (Stops.cons _ (by decide))
  · exact runs_cls0 hs (Stops.cons _ (by decide))

theorem literal_fails {r : Str} (h1 : Stops (· == '"') r) (h2 : Stops (· == '\'') r) : Runs env (.nt N.literal) r .fail :=
  Runs.nt_fail_of literal_prod (Runs.alt (RunsAlt.skip (Runs.seq_fail_head (runs_tag_fail_head h1))
    (RunsAlt.skip (Runs.seq_fail_head (runs_tag_fail_head h2)) (RunsAlt.nil _))))

/-- the tree of a number from its two parts: the integer digits `a` and what follows them (`.` and the fraction digits, or nothing) -/
def numCst (a : Str) : Str → CST
  | '.' :: r => if a = [] then .node N.number (.seq [.leaf ['.'], .leaf r])
                else .node N.number (.seq [.leaf a, .seq [.leaf ['.'], .leaf r]])
  | _ => .node N.number (.seq [.leaf a, .seq []])

/-- the tree of the number spelled `s`: `numCst` on the leading digits of `s` and the rest -/
def cstNum (s : Str) : CST := numCst (spanP P.isDigit s).1 (spanP P.isDigit s).2

theorem number_prod : env N.number = G.alt [G.seq [G.cls1 P.isDigit, G.alt [G.seq [G.tag ['.'], G.cls0 P.isDigit], G.seq []]],
    G.seq [G.tag ['.'], G.cls1 P.isDigit]] := rfl

abbrev numStart (c : Char) : Bool := P.isDigit c || c == '.'

theorem okNumber_cases {s : Str} (hs : okNumber s = true) : ∃ a, a.all P.isDigit = true ∧
    ((a ≠ [] ∧ s = a ∧ cstNum s = numCst a []) ∨
     ∃ r, r.all P.isDigit = true ∧ (a ≠ [] ∨ r ≠ []) ∧ s = a ++ '.' :: r ∧ cstNum s = numCst a ('.' :: r)) := by
  have hsplit := spanP_append P.isDigit s
  have hall := List.all_eq_true.mpr (spanP_all P.isDigit s)
  unfold okNumber at hs
  unfold cstNum
  generalize spanP P.isDigit s = sp at hs hsplit hall
  obtain ⟨a, b⟩ := sp
  refine ⟨a, hall, ?_⟩
  subst hsplit
  split at hs
  · next a' h => simp only [Prod.mk.injEq] at h; obtain ⟨rfl, rfl⟩ := h; exact .inl ⟨by simpa using hs, List.append_nil a, rfl⟩
  · next a' r h =>
    simp only [Prod.mk.injEq] at h; obtain ⟨rfl, rfl⟩ := h
    simp only [Bool.and_eq_true, Bool.or_eq_true, Bool.not_eq_true', List.isEmpty_eq_false_iff] at hs
    exact .inr ⟨r, hs.1, hs.2, rfl, rfl⟩
  · cases hs

theorem runs_number {s : Str} (hs : okNumber s = true) {Y : Str} (hY : Stops numStart Y) :
    Runs env (.nt N.number) (s ++ Y) (.ok (cstNum s) Y) := by
  obtain ⟨hYd, hYdot⟩ := stops_or hY
  obtain ⟨a, ha, ⟨hne, rfl, e⟩ | ⟨r, hr, hne, rfl, e⟩⟩ := okNumber_cases hs
  · rw [e]
    exact Runs.nt_of number_prod (Runs.alt (RunsAlt.hit (Runs.seq2 (runs_cls1 hne ha hYd)
      (Runs.opt_none (Runs.seq_fail_head (runs_tag_fail_head hYdot))))))
  · have hfrac := Runs.tag_ok (env := env) ['.'] (r ++ Y)
    rw [e, List.append_assoc]
    by_cases hae : a = []
    · subst hae
      exact Runs.nt_of number_prod (Runs.alt (RunsAlt.skip (Runs.seq_fail_head (runs_cls1_fail (Stops.cons _ digit_dot)))
        (RunsAlt.hit (Runs.seq2 hfrac (runs_cls1 (hne.resolve_left (· rfl)) hr hYd)))))
    · simp only [numCst, hae, if_false]
      exact Runs.nt_of number_prod (Runs.alt (RunsAlt.hit (Runs.seq2 (runs_cls1 hae ha (Stops.cons _ digit_dot))
        (Runs.opt_some (Runs.seq2 hfrac (runs_cls0 hr hYd))))))

theorem number_fails {r : Str} (hr : Stops numStart r) : Runs env (.nt N.number) r .fail :=
  Runs.nt_fail_of number_prod (Runs.alt (RunsAlt.skip (Runs.seq_fail_head (runs_cls1_fail (stops_or hr).1))
    (RunsAlt.skip (Runs.seq_fail_head (runs_tag_fail_head (stops_or hr).2)) (RunsAlt.nil _))))

/-- for the steps `.` and `..` -/
theorem number_fails_dot {r : Str} (hr : Stops P.isDigit r) : Runs env (.nt N.number) ('.' :: r) .fail :=
  Runs.nt_fail_of number_prod (Runs.alt (RunsAlt.skip (Runs.seq_fail_head (runs_cls1_fail (Stops.cons _ digit_dot)))
    (RunsAlt.skip (seq_fail_second (Runs.tag_ok ['.'] r) (runs_cls1_fail hr)) (RunsAlt.nil _))))

theorem okNumber_starts {s : Str} (h : okNumber s = true) : Starts numStart s := by
  have dig {a : Str} (ha : a.all P.isDigit = true) (hne : a ≠ []) : Starts numStart a := by
    cases a with
    | nil => exact absurd rfl hne
    | cons c t => simp only [List.all_cons, Bool.and_eq_true] at ha; exact .cons t (by simp [ha.1])
  obtain ⟨a, ha, ⟨hne, rfl, _⟩ | ⟨r, _, _, rfl, _⟩⟩ := okNumber_cases h
  · exact dig ha hne
  · by_cases hae : a = []
    · subst hae; exact .cons r (by decide)
    · exact (dig ha hae).append _

section
variable {l lo : Nat} {b ds : Bool} {e : CX} {t : CXTail} {w w1 w2 w3 s : Str} {preds : CPreds} {c : Char} {op : BinOp}
  {ta : CArgTail} {tr : CRelTail} {st : CStep} {ax : CAxis} {test : CTest}

theorem okAt_iff (l : Nat) (e : CX) : okAt l e = true ↔ match e with
    | .chain l' f r => l = l' ∧ l ≤ 5 ∧ okAt (l + 1) f = true ∧ XPath.okTail l (l + 1) (endsRoot f) r = true
    | .unary ms e => l = 6 ∧ ms.all okWs = true ∧ okAt 7 e = true
    | .union f r => l = 7 ∧ okAt 8 f = true ∧ XPath.okTail 7 8 (endsRoot f) r = true
    | .pathF f => l = 8 ∧ okAt 9 f = true
    | .pathFR f w1 _ w2 rel => l = 8 ∧ okAt 9 f = true ∧ okWs w1 = true ∧ okWs w2 = true ∧ okRel rel = true
    | .pathAbs _ w rel => l = 8 ∧ okWs w = true ∧ okRel rel = true
    | .pathRel rel => l = 8 ∧ okRel rel = true
    | .pathRoot => l = 8
    | .filter p preds => l = 9 ∧ okAt 10 p = true ∧ okPreds preds = true
    | .var q => l = 10 ∧ okQN q = true
    | .paren w1 e w2 => l = 10 ∧ okWs w1 = true ∧ okAt 0 e = true ∧ okWs w2 = true
    | .lit q s => l = 10 ∧ isQuote q = true ∧ s.all (· != q) = true
    | .num s => l = 10 ∧ okNumber s = true
    | .call f w1 w2 args w3 => l = 10 ∧ okQN f = true ∧ isNodeTypeName f = false ∧ okWs w1 = true ∧ okWs w2 = true ∧
        okArgs args = true ∧ okWs w3 = true ∧ (args = .none → w3 = []) := by
  cases e
  case call f w1 w2 args w3 =>
    cases args <;> simp only [okAt, Bool.and_eq_true, beq_iff_eq, Bool.not_eq_true', and_assoc, List.isEmpty_iff, forall_const, reduceCtorEq, false_implies, and_true]
  all_goals simp only [okAt, Bool.and_eq_true, beq_iff_eq, decide_eq_true_eq, and_assoc]

theorem okTail_cons : XPath.okTail l lo b (.cons w1 op w2 e t) = true ↔ opLevel op = l ∧ okWs w1 = true ∧
    (opNeedsSpace op = true → w1 ≠ []) ∧ (b = true → opRootSafe op = true) ∧ okWs w2 = true ∧ okAt lo e = true ∧
    XPath.okTail l lo (endsRoot e) t = true := by
  have imp {x : Bool} {P : Prop} : (x = false ∨ P) ↔ (x = true → P) := by cases x <;> simp
  simp only [XPath.okTail, Bool.and_eq_true, beq_iff_eq, Bool.or_eq_true, Bool.not_eq_true', List.isEmpty_eq_false_iff, and_assoc, imp]

theorem okArgTail_cons : okArgTail (.cons w1 w2 e ta) = true ↔ okWs w1 = true ∧ okWs w2 = true ∧ okAt 0 e = true ∧ okArgTail ta = true := by
  simp only [okArgTail, Bool.and_eq_true, and_assoc]

theorem okRelTail_cons : okRelTail (.cons w1 ds w2 st tr) = true ↔ okWs w1 = true ∧ okWs w2 = true ∧ okStep st = true ∧ okRelTail tr = true := by
  simp only [okRelTail, Bool.and_eq_true, and_assoc]

theorem okStep_full : okStep (.full ax w test preds) = true ↔
    okAxis ax = true ∧ okWs w = true ∧ okTest test = true ∧ okPreds preds = true ∧ (ax = .omitted → w = []) := by
  cases ax <;> simp only [okStep, Bool.and_eq_true, and_assoc, List.isEmpty_iff, forall_const, reduceCtorEq, false_implies, and_true]

theorem okPreds_cons : okPreds (.cons w w1 e w2 preds) = true ↔
    okWs w = true ∧ okWs w1 = true ∧ okAt 0 e = true ∧ okWs w2 = true ∧ okPreds preds = true := by
  simp only [okPreds, Bool.and_eq_true, and_assoc]

theorem okTest_piLit : okTest (.piLit w1 w2 c s w3) = true ↔
    okWs w1 = true ∧ okWs w2 = true ∧ isQuote c = true ∧ s.all (· != c) = true ∧ okWs w3 = true := by
  simp only [okTest, Bool.and_eq_true, and_assoc]
end

end XmlRs.XLex
