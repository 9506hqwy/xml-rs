import XmlRsModel.Lemmas.RunsDoc
import XmlRsModel.Lemmas.AbsSimp
/-! Reading the trees the parser builds for a rendering (`cst…` of `Lemmas/Runs*.lean`): the generic facts behind the simp sets
    `cst_simp` and `depth_simp`, and the depth facts of the trees of element content.
    The files `Lemmas/Abs*.lean` then show `abs (cst x) = erase x` production by production. -/
namespace XmlRs.Lex
open XmlRs Gen.Xml XmlRs.Names

theorem findL_nil (n : Nat) : findL n [] = none := rfl
theorem findL_cons (n m : Nat) (c : CST) (l : List (Nat × CST)) : findL n ((m, c) :: l) = if m == n then some c else findL n l := by
  cases h : m == n <;> simp [findL, h]
theorem allL_nil (n : Nat) : allL n [] = [] := rfl
theorem allL_cons (n m : Nat) (c : CST) (l : List (Nat × CST)) : allL n ((m, c) :: l) = if m == n then c :: allL n l else allL n l := by
  cases h : m == n <;> simp [allL, h]

theorem findL_append (n : Nat) (l r : List (Nat × CST)) : findL n (l ++ r) = (findL n l).or (findL n r) := by
  induction l with
  | nil => rfl
  | cons x l ih => obtain ⟨m, c⟩ := x; simp only [List.cons_append, findL_cons, ih]; split <;> rfl

theorem kidsLL_map {α : Type} {f : α → CST} {g : α → Nat × CST} (h : ∀ a, (f a).kidsL = [g a]) (l : List α) :
    kidsLL (l.map f) = l.map g := by
  induction l with
  | nil => rfl
  | cons a l ih => simp only [List.map_cons, kidsLL, h, ih, List.cons_append, List.nil_append]

theorem allL_map {α : Type} (n : Nat) (b : α → CST) (l : List α) : allL n (l.map fun a => (n, b a)) = l.map b := by
  induction l with
  | nil => rfl
  | cons a l ih => simp only [List.map_cons, allL_cons, beq_self_eq_true, if_true, ih]

theorem findL_map_ne {α : Type} {n m : Nat} (h : (m == n) = false) (b : α → CST) (l : List α) :
    findL n (l.map fun a => (m, b a)) = none := by
  induction l with
  | nil => rfl
  | cons a l ih => simp only [List.map_cons, findL_cons, h, Bool.false_eq_true, if_false, ih]

attribute [cst_simp] CST.kidsL kidsLL CST.flatten flattenL CST.toks toksL findL_nil findL_cons allL_nil allL_cons allL_map
  List.append_nil List.nil_append List.cons_append List.append_assoc List.map_cons List.map_nil if_true if_false

attribute [depth_simp] CST.elemDepth elemDepthL CST.ntDepth ntDepthL List.map_cons List.map_nil
  if_true if_false Bool.and_eq_true and_true true_and and_self implies_true Nat.max_zero Nat.zero_max Nat.max_self

mutual
def noEl : CST → Bool
  | .leaf _ => true
  | .node n c => n != N.element && n != N.children && noEl c
  | .seq ks => noElL ks
  | .many ks => noElL ks
def noElL : List CST → Bool
  | [] => true
  | c :: cs => noEl c && noElL cs
end

attribute [depth_simp] noEl noElL

mutual
theorem noEl_depth : ∀ c : CST, noEl c = true → c.elemDepth = 0 ∧ c.ntDepth N.children = 0
  | .leaf _, _ => ⟨rfl, rfl⟩
  | .node n c, h => by
    simp only [noEl, Bool.and_eq_true, bne_iff_ne, ne_eq, ← beq_eq_false_iff_ne] at h
    simpa only [CST.elemDepth, CST.ntDepth, h.1.1, h.1.2, Bool.false_eq_true, if_false] using noEl_depth c h.2
  | .seq ks, h => noElL_depth ks h
  | .many ks, h => noElL_depth ks h
theorem noElL_depth : ∀ cs : List CST, noElL cs = true → elemDepthL cs = 0 ∧ ntDepthL N.children cs = 0
  | [], _ => ⟨rfl, rfl⟩
  | c :: cs, h => by
    simp only [noElL, Bool.and_eq_true] at h
    simp only [elemDepthL, ntDepthL, noEl_depth c h.1, noElL_depth cs h.2, Nat.max_self, and_self]
end

@[depth_simp] theorem elemDepth_of_noEl {c : CST} (h : noEl c = true) : c.elemDepth = 0 := (noEl_depth c h).1
@[depth_simp] theorem childrenDepth_of_noEl {c : CST} (h : noEl c = true) : c.ntDepth N.children = 0 := (noEl_depth c h).2
@[depth_simp] theorem elemDepthL_of_noElL {cs : List CST} (h : noElL cs = true) : elemDepthL cs = 0 := (noElL_depth cs h).1
@[depth_simp] theorem childrenDepthL_of_noElL {cs : List CST} (h : noElL cs = true) : ntDepthL N.children cs = 0 := (noElL_depth cs h).2

@[depth_simp] theorem noElL_map {α : Type} (f : α → CST) (l : List α) (h : ∀ x, noEl (f x) = true) : noElL (l.map f) = true := by
  induction l with
  | nil => rfl
  | cons x xs ih => simp only [List.map_cons, noElL, h, ih, Bool.and_self]

mutual
theorem noEl_of_leafy : ∀ c : CST, leafy c = true → noEl c = true
  | .leaf _, _ => rfl
  | .node _ _, h => by simp [leafy] at h
  | .seq ks, h => by simpa [noEl] using noElL_of_leafy ks (by simpa [leafy] using h)
  | .many ks, h => by simpa [noEl] using noElL_of_leafy ks (by simpa [leafy] using h)
theorem noElL_of_leafy : ∀ cs : List CST, leafyL cs = true → noElL cs = true
  | [], _ => rfl
  | c :: cs, h => by
    simp only [leafyL, Bool.and_eq_true] at h
    simp [noElL, noEl_of_leafy c h.1, noElL_of_leafy cs h.2]
end

@[depth_simp] theorem noEl_nc (a : Str) : noEl (cstNc a) = true := by
  simp only [cstNc]; split <;> simp +decide only [depth_simp]

@[depth_simp] theorem noEl_qn (q : QN) : noEl (cstQN q) = true := by
  obtain ⟨pre, loc⟩ := q
  cases pre <;> simp +decide only [cstQN, depth_simp]

@[depth_simp] theorem noEl_name (t : Str) : noEl (cstName t) = true := by simp +decide only [cstName, depth_simp]

@[depth_simp] theorem noEl_ref (pc : Piece) : noEl (cstRef pc) = true := by
  cases pc with
  | charRef d h => cases h <;> simp +decide only [cstRef, depth_simp]
  | entRef n => simp +decide only [cstRef, depth_simp]
  | _ => rfl

@[depth_simp] theorem noEl_piece (pc : Piece) : noEl (cstPiece pc) = true := by
  cases pc <;> first | rfl | exact noEl_ref _

@[depth_simp] theorem noEl_attValue (q : Char) (vals : List Piece) : noEl (cstAttValue q vals) = true := by
  simp +decide only [cstAttValue, depth_simp]

@[depth_simp] theorem noEl_eq (a b : Str) : noEl (cstEq a b) = true := by simp +decide only [cstEq, depth_simp]

@[depth_simp] theorem noEl_attr (a : CAttr) : noEl (cstAttr a) = true := by
  have h : noEl (cstAttrName a.name) = true := by
    unfold cstAttrName
    split
    · simp +decide only [depth_simp]
    · split <;> simp +decide only [depth_simp]
  simp +decide only [cstAttr, h, depth_simp]

@[depth_simp] theorem noEl_attrIter (a : CAttr) : noEl (cstAttrIter a) = true := by simp only [cstAttrIter, depth_simp]

@[depth_simp] theorem noEl_stag (n : QN) (as : List CAttr) (w : Str) : noEl (cstSTag n as w) = true := by
  simp +decide only [cstSTag, depth_simp]

@[depth_simp] theorem noEl_emptyTag (n : QN) (as : List CAttr) (w : Str) : noEl (cstEmptyTag n as w) = true := by
  simp +decide only [cstEmptyTag, depth_simp]

@[depth_simp] theorem noEl_etag (n : QN) (w : Str) : noEl (cstETag n w) = true := by simp +decide only [cstETag, depth_simp]

@[depth_simp] theorem noEl_charData (s : Str) : noEl (cstCharData s) = true := by simp +decide only [cstCharData, depth_simp]

@[depth_simp] theorem noEl_cdata (s : Str) : noEl (cstCData s) = true := by simp +decide only [cstCData, depth_simp]

@[depth_simp] theorem noEl_pi (t b : Str) : noEl (cstPI t b) = true := by
  simp only [cstPI, piBody]; split <;> simp +decide only [depth_simp]

@[depth_simp] theorem noEl_comment (s : Str) : noEl (cstComment s) = true := by
  simp +decide only [cstComment, noElL_of_leafy _ (commentIters_leafy _ _), depth_simp]

@[depth_simp] theorem noEl_misc (m : CMisc) : noEl (cstMisc m) = true := by
  cases m <;> simp +decide only [cstMisc, depth_simp]

theorem depthL_cons (i : CItem) (l : List CItem) : depthL (i :: l) = max i.depth (depthL l) := by rw [depthL]

mutual
theorem depth_item : ∀ i : CItem, (cstItemNode i).elemDepth ≤ i.depth ∧ (cstItemNode i).ntDepth N.children = 0
  | .text _ => ⟨Nat.le_refl _, rfl⟩
  | .charRef d h | .entRef n | .cdata s | .pi t b | .comment s => by simp only [cstItemNode, depth_simp, Nat.zero_le]
  | .elem n as w e ks w' => by
    have ih := depth_iters ks
    cases e with
    | true => simp +decide only [cstItemNode, CItem.depth, depth_simp, Nat.le_add_left]
    | false => simpa +decide only [cstItemNode, CItem.depth, depth_simp, Bool.false_eq_true, ih.2, Nat.add_le_add_iff_right] using ih.1
theorem depth_iters : ∀ l : List CItem, elemDepthL (cstIters l) ≤ depthL l ∧ ntDepthL N.children (cstIters l) = 0
  | [] => ⟨Nat.le_refl _, rfl⟩
  | i :: rest => by
    have ih := depth_iters rest
    have hi := depth_item i
    rw [depthL_cons]
    cases hti : isTextItem i with
    | true =>
      obtain ⟨s, rfl⟩ := isTextItem_true hti
      exact ⟨Nat.le_trans ih.1 (Nat.le_max_right _ _), ih.2⟩
    | false =>
      simp only [cstIters_nontext hti, hi.2, ih.2, depth_simp]
      omega
end

end XmlRs.Lex
