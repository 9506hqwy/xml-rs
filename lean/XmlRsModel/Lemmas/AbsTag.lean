import XmlRsModel.Lemmas.AbsCst
/-! `abs (cst x) = erase x` for names, attribute and entity values, attributes and tags. -/
namespace XmlRs.Lex
open XmlRs Gen.Xml XmlRs.Names

def ncBody (a : Str) : CST := .seq [.leaf (a.take 1), if a.drop 1 = [] then .seq [] else .leaf (a.drop 1)]

@[cst_simp] theorem cstNc_eq (a : Str) : cstNc a = .node N.ncname (ncBody a) := rfl

@[cst_simp] theorem ncBody_flatten (a : Str) : (ncBody a).flatten = a := by
  have key := List.take_append_drop 1 a
  simp only [ncBody, cst_simp]
  split
  · next h => rw [h, List.append_nil] at key; simpa only [cst_simp] using key
  · simpa only [cst_simp] using key

@[cst_simp] theorem ncBody_kidsL (a : Str) : (ncBody a).kidsL = [] := by
  simp only [ncBody, cst_simp]; split <;> rfl

def nameBody (t : Str) : CST :=
  .seq [.node N.multinamestartchar0 (.leaf (spanP P.isNameStartChar t).1), .node N.multinamechar0 (.leaf (spanP P.isNameStartChar t).2)]
@[cst_simp] theorem cstName_eq (t : Str) : cstName t = .node N.name (nameBody t) := rfl
@[cst_simp] theorem nameBody_flatten (t : Str) : (nameBody t).flatten = t := cstName_flatten t

def qnBody (q : QN) : CST :=
  match q.pre with
  | none => cstNc q.loc
  | some p => .node N.prefixed_name (.seq [cstNc p, .seq [.leaf [':'], cstNc q.loc]])

@[cst_simp] theorem cstQN_eq (q : QN) : cstQN q = .node N.qname (qnBody q) := by
  obtain ⟨pre, loc⟩ := q
  cases pre <;> rfl

@[cst_simp] theorem absQName_qnBody (q : QN) : absQName (qnBody q) = q := by
  obtain ⟨pre, loc⟩ := q
  cases pre <;> simp +decide only [absQName, qnBody, cst_simp, List.length_cons, List.length_nil]

def refBody : Piece → CST
  | .entRef n => .node N.entity_ref (.seq [.leaf ['&'], cstName n, .leaf [';']])
  | .charRef d false => .node N.char_ref (.seq [.leaf ['&', '#'], .leaf d, .leaf [';']])
  | .charRef d true => .node N.char_ref (.seq [.leaf ['&', '#', 'x'], .leaf d, .leaf [';']])
  | _ => .leaf []

@[cst_simp] theorem cstRef_entRef (n : Str) : cstRef (.entRef n) = .node N.reference (refBody (.entRef n)) := rfl
@[cst_simp] theorem cstRef_charRef (d : Str) (h : Bool) : cstRef (.charRef d h) = .node N.reference (refBody (.charRef d h)) := by
  cases h <;> rfl

/-- what `absPieces` needs to read a piece back: an empty text leaves no token, and decimal digits that begin with `x` would be
    taken for a hexadecimal reference -/
def readable : Piece → Bool
  | .text s => !s.isEmpty
  | .charRef d false => d.head? != some 'x'
  | _ => true

theorem isDigit_ne_x {c : Char} (h : P.isDigit c = true) : c ≠ 'x' := by
  intro e; subst e; revert h; decide

theorem readable_digits {d : Str} {h : Bool} (hd : d.all (if h then P.isHexDigit else P.isDigit) = true) : readable (.charRef d h) = true := by
  cases h with
  | true => rfl
  | false =>
    cases d with
    | nil => rfl
    | cons c t =>
      simp only [Bool.false_eq_true, if_false, List.all_cons, Bool.and_eq_true] at hd
      simp only [readable, List.head?_cons, bne_iff_ne, ne_eq, Option.some.injEq]
      exact isDigit_ne_x hd.1

theorem readable_of_ok {q : Char} {pc : Piece} (h : okPiece q pc = true) : readable pc = true := by
  cases pc with
  | text s => simp only [okPiece, Bool.and_eq_true] at h; exact h.1
  | charRef d hx => simp only [okPiece, Bool.and_eq_true] at h; exact readable_digits h.2
  | _ => rfl

theorem readable_of_okE {q : Char} {pc : Piece} (h : okPieceE q pc = true) : readable pc = true := by
  cases pc with
  | text s => simp only [okPieceE, Bool.and_eq_true] at h; exact h.1
  | charRef d hx => simp only [okPieceE, Bool.and_eq_true] at h; exact readable_digits h.2
  | _ => rfl

@[cst_simp] theorem absReference_entRef (n : Str) : absReference (refBody (.entRef n)) = .entRef n := by
  simp +decide only [refBody, absReference, cst_simp]

theorem absReference_charRef (d : Str) (hx : Bool) (hr : readable (.charRef d hx) = true) :
    absReference (refBody (.charRef d hx)) = .charRef d hx := by
  cases hx with
  | true => simp +decide only [refBody, absReference, absCharRef, cst_simp, List.dropLast_concat]
  | false =>
    simp +decide only [refBody, absReference, absCharRef, cst_simp]
    split
    · next r heq =>
      -- decimal digits beginning with `x` would be read back as a hexadecimal reference: `readable` excludes them
      simp only [List.cons.injEq, true_and] at heq
      cases d with
      | nil => simp +decide at heq
      | cons c d' =>
        simp only [List.cons_append, List.cons.injEq] at heq
        rw [heq.1] at hr; cases hr
    · next r heq => simp only [List.cons.injEq, true_and] at heq; rw [← heq, List.dropLast_concat]
    · next h1 h2 => exact absurd rfl (h2 _)

def pieceTok : Piece → Tok
  | .text s => .leaf s
  | .peRef n => .node N.pe_reference (.seq [.leaf ['%'], cstName n, .leaf [';']])
  | pc => .node N.reference (refBody pc)

theorem toks_pieceE (pc : Piece) (h : readable pc = true) : (cstPieceE pc).toks = [pieceTok pc] := by
  cases pc with
  | text s => simp only [readable, Bool.not_eq_true'] at h; simp only [cstPieceE, CST.toks, h, Bool.false_eq_true, if_false, pieceTok]
  | peRef n => rfl
  | entRef n => rfl
  | charRef d hx => cases hx <;> rfl

theorem cstPiece_eq {q : Char} {pc : Piece} (h : okPiece q pc = true) : cstPiece pc = cstPieceE pc := by
  cases pc <;> first | rfl | cases h

/-- a quoted literal of an entity declaration, read back; attribute values are the case without parameter-entity references -/
theorem absPieces_cstE (q : Char) (ps : List Piece) (h : ∀ pc ∈ ps, readable pc = true) :
    absPieces (.seq [.leaf [q], .many (ps.map cstPieceE), .leaf [q]]) = ps := by
  have ht : toksL (ps.map cstPieceE) = ps.map pieceTok := by
    induction ps with
    | nil => rfl
    | cons pc ps ih =>
      simp only [List.map_cons, toksL, toks_pieceE pc (h pc (List.mem_cons_self ..)), ih fun x hx => h x (List.mem_cons_of_mem _ hx),
        List.cons_append, List.nil_append]
  simp +decide only [absPieces, cst_simp, ht, List.isEmpty_cons, Bool.false_eq_true, List.drop_succ_cons, List.drop_zero, List.dropLast_concat, List.map_map]
  conv => rhs; rw [← List.map_id ps]
  apply List.map_congr_left
  intro pc hpc
  cases pc with
  | text s => rfl
  | peRef n => simp +decide only [Function.comp_apply, pieceTok, cst_simp, id]
  | entRef n => simp +decide only [Function.comp_apply, pieceTok, if_true, absReference_entRef, id]
  | charRef d hx => simp +decide only [Function.comp_apply, pieceTok, if_true, absReference_charRef d hx (h _ hpc), id]

theorem absPieces_cst (q : Char) (ps : List Piece) (h : ps.all (okPiece q) = true) :
    absPieces (.seq [.leaf [q], .many (ps.map cstPiece), .leaf [q]]) = ps := by
  rw [List.all_eq_true] at h
  rw [List.map_congr_left fun pc hpc => cstPiece_eq (h pc hpc)]
  exact absPieces_cstE q ps fun pc hpc => readable_of_ok (h pc hpc)

def attrBody (a : CAttr) : CST := .seq [cstAttrName a.name, .seq [cstEq a.ws1 a.ws2, cstAttValue a.q a.vals]]

@[cst_simp] theorem cstAttr_eq (a : CAttr) : cstAttr a = .node N.attribute_ (attrBody a) := rfl

/-- whichever of the two productions reads the name, its abstraction gives the name back -/
theorem absAttrName (n : QN) : ∃ m b, cstAttrName n = .node m b ∧ (m = N.ns_att_name ∨ m = N.qname) ∧
    (if m == N.ns_att_name then absNsAttName b else absQName b) = n := by
  obtain ⟨pre, loc⟩ := n
  unfold cstAttrName
  split
  · next h =>
    simp only at h; subst h
    exact ⟨_, _, rfl, .inl rfl, by simp +decide only [absNsAttName, cst_simp, xmlnsS_eq]⟩
  · split
    · next h =>
      simp only at h; obtain ⟨rfl, rfl⟩ := h
      exact ⟨_, _, rfl, .inl rfl, by decide⟩
    · exact ⟨_, _, cstQN_eq _, .inr rfl, by simp +decide only [cst_simp]⟩

theorem absAttribute_cst (a : CAttr) (h : okAttr a = true) : absAttribute (attrBody a) = a.erase := by
  obtain ⟨_, _, _, _, _, _, h7, _⟩ := okAttr_parts h
  obtain ⟨m, b, hn, hm, hr⟩ := absAttrName a.name
  rcases hm with rfl | rfl <;>
    simp +decide only [absAttribute, attrBody, hn, cstEq, cstAttValue, cst_simp, List.head?_cons] at hr ⊢ <;>
    simp only [hr, absPieces_cst a.q a.vals h7, CAttr.erase]

def tagBody (n : QN) (as : List CAttr) (w : Str) (close : Str) : CST :=
  .seq [.leaf ['<'], .seq [cstQN n, .many (as.map cstAttrIter)], .seq [.leaf w, .leaf close]]

@[cst_simp] theorem cstSTag_eq (n : QN) (as : List CAttr) (w : Str) : cstSTag n as w = .node N.stag (tagBody n as w ['>']) := rfl
@[cst_simp] theorem cstEmptyTag_eq (n : QN) (as : List CAttr) (w : Str) :
    cstEmptyTag n as w = .node N.empty_entity_tag (tagBody n as w ['/', '>']) := rfl

theorem absTag_cst (n : QN) (as : List CAttr) (w close : Str) (has : as.all okAttr = true) :
    absTag (tagBody n as w close) = (n, as.map CAttr.erase) := by
  have hk : kidsLL (as.map cstAttrIter) = as.map fun a => (N.attribute_, attrBody a) := kidsLL_map (fun _ => rfl) as
  simp +decide only [absTag, tagBody, cst_simp, hk, List.map_map]
  rw [List.all_eq_true] at has
  rw [List.map_congr_left (f := absAttribute ∘ attrBody) fun a ha => absAttribute_cst a (has a ha)]

end XmlRs.Lex
