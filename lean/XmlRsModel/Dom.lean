import XmlRsModel.XmlDoc
import XmlRsModel.CharData
/-! DOM Level 1 Core model: a document tree and the detached trees of an edit history, the mutators
    of `NodeMut` / `ElementMut` / `CharacterDataMut` / `TextMut` / `DocumentMut`, their exceptions.
    A failing call returns the state it was given (DOM: "exceptions are raised before any change").
    The validity rules for names and data are the grammar productions the library itself uses to
    validate (generated grammar, `Gen/XmlGrammar.lean`).  Imports the XML model and `CharData` only. -/
namespace XmlRs.Dom
open XmlRs Gen.Xml

inductive Kind where
  | doc
  | elem (name : Str)
  | attr (name : Str) (specified : Bool)
  | text | cdata | comment
  | pi (target : Str)
  /-- entity reference or character reference; `name` is what `nodeName` reports -/
  | ref (name : Str)
  | doctype (name : Str)
  deriving DecidableEq, Inhabited

inductive Node where
  | mk (id : Nat) (kind : Kind) (data : Str) (attrs : List Node) (kids : List Node)
  deriving Inhabited

def Node.id : Node → Nat | .mk i _ _ _ _ => i
def Node.kind : Node → Kind | .mk _ k _ _ _ => k
def Node.data : Node → Str | .mk _ _ d _ _ => d
def Node.attrs : Node → List Node | .mk _ _ _ a _ => a
def Node.kids : Node → List Node | .mk _ _ _ _ k => k

inductive Exc where
  | hierarchy | wrongDoc | notFound | inUse | indexSize | invalidChar | noData | invalid
  deriving DecidableEq, Inhabited, Repr

structure St where
  doc : Node
  detached : List Node
  next : Nat
  /-- handle slot i ↦ node id; an allocating operation consumes one slot whatever its outcome -/
  handles : List (Option Nat)
  deriving Inhabited

/-! ### generic tree functions (attributes and children are both sub-nodes) -/
mutual
def findIn (i : Nat) : Node → Option Node
  | .mk j k d as ks => if i == j then some (.mk j k d as ks) else (findInL i as).orElse fun _ => findInL i ks
def findInL (i : Nat) : List Node → Option Node
  | [] => none
  | n :: r => (findIn i n).orElse fun _ => findInL i r
end

mutual
/-- all ids of a subtree in pre-order: node, attributes (with their items), children -/
def idsOf : Node → List Nat
  | .mk j _ _ as ks => j :: (idsOfL as ++ idsOfL ks)
def idsOfL : List Node → List Nat
  | [] => []
  | n :: r => idsOf n ++ idsOfL r
end

mutual
/-- remove the sub-node with id `i` (a child or an attribute, at any depth): (tree without it, it) -/
def removeIn (i : Nat) : Node → Node × Option Node
  | .mk j k d as ks =>
    match removeInL i as with
    | (as', some x) => (.mk j k d as' ks, some x)
    | (_, none) => match removeInL i ks with
      | (ks', r) => (.mk j k d as ks', r)
def removeInL (i : Nat) : List Node → List Node × Option Node
  | [] => ([], none)
  | n :: r =>
    if n.id == i then (r, some n)
    else match removeIn i n with
      | (n', some x) => (n' :: r, some x)
      | (_, none) => match removeInL i r with
        | (r', x) => (n :: r', x)
end

mutual
/-- apply `f` to the node with id `i` -/
def updateIn (i : Nat) (f : Node → Node) : Node → Node
  | .mk j k d as ks => if i == j then f (.mk j k d as ks) else .mk j k d (updateInL i f as) (updateInL i f ks)
def updateInL (i : Nat) (f : Node → Node) : List Node → List Node
  | [] => []
  | n :: r => updateIn i f n :: updateInL i f r
end

-- id of the node that has `i` as a child (not as an attribute)
mutual
def parentIn (i : Nat) : Node → Option Nat
  | .mk j _ _ as ks => if ks.any (·.id == i) then some j else (parentInL i as).orElse fun _ => parentInL i ks
def parentInL (i : Nat) : List Node → Option Nat
  | [] => none
  | n :: r => (parentIn i n).orElse fun _ => parentInL i r
end

-- id of the element that has `i` as an attribute
mutual
def ownerIn (i : Nat) : Node → Option Nat
  | .mk j _ _ as ks => if as.any (·.id == i) then some j else (ownerInL i as).orElse fun _ => ownerInL i ks
def ownerInL (i : Nat) : List Node → Option Nat
  | [] => none
  | n :: r => (ownerIn i n).orElse fun _ => ownerInL i r
end

def St.roots (s : St) : List Node := s.doc :: s.detached

def St.find (s : St) (i : Nat) : Option Node := findInL i s.roots
def St.parent (s : St) (i : Nat) : Option Nat := parentInL i s.roots
def St.owner (s : St) (i : Nat) : Option Nat := ownerInL i s.roots

/-- is `a` the node `b` or one of its ancestors (through children and attribute ownership)? -/
def St.isAncestorOrSelf (s : St) (a b : Nat) : Bool :=
  match s.find a with
  | some n => (idsOf n).contains b
  | none => false

/-- take the node `i` out of wherever it is (document tree or a detached tree; as a child or as an
    attribute); a detached ROOT is taken off the list of detached trees -/
def St.detach (s : St) (i : Nat) : St × Option Node :=
  match s.detached.find? (·.id == i) with
  | some n => ({ s with detached := s.detached.filter (·.id != i) }, some n)
  | none =>
    match removeIn i s.doc with
    | (d', some x) => ({ s with doc := d' }, some x)
    | (_, none) =>
      match removeInL i s.detached with
      | (det', x) => ({ s with detached := det' }, x)

def St.update (s : St) (i : Nat) (f : Node → Node) : St :=
  { s with doc := updateIn i f s.doc, detached := updateInL i f s.detached }

def Node.mapKids (f : List Node → List Node) : Node → Node | .mk j k d as ks => .mk j k d as (f ks)
def Node.mapAttrs (f : List Node → List Node) : Node → Node | .mk j k d as ks => .mk j k d (f as) ks
def Node.withData (d' : Str) : Node → Node | .mk j k _ as ks => .mk j k d' as ks

def insertBeforeL (x : Node) (ref : Option Nat) : List Node → List Node
  | [] => [x]
  | n :: r => match ref with
    | some i => if n.id == i then x :: n :: r else n :: insertBeforeL x ref r
    | none => n :: insertBeforeL x ref r

/-! ### validity of names and data: the productions the library validates with -/
def fullMatch (n : Nat) (s : Str) : Bool :=
  match run env (100000 + 64 * s.length) (.nt n) s with
  | .ok _ [] => true
  | _ => false

def validQName (s : Str) : Bool := fullMatch N.qname s
def validName (s : Str) : Bool := fullMatch N.name s && !s.isEmpty
def validText (s : Str) : Bool := fullMatch N.char_data s
def validComment (s : Str) : Bool := fullMatch N.comment ("<!--".toList ++ s ++ "-->".toList)
def validCData (s : Str) : Bool := fullMatch N.cdsect ("<![CDATA[".toList ++ s ++ "]]>".toList)
/-- a whole Name: NameStartChar NameChar* -/
def isName (s : Str) : Bool :=
  match s with
  | [] => false
  | c :: r => P.isNameStartChar c && r.all P.isNameChar

/-- a PI target the factory accepts: a Name such that `<?target?>` is a processing instruction -/
def validPITarget (t : Str) : Bool := isName t && fullMatch N.pi ("<?".toList ++ t ++ "?>".toList)

/-- PI data is validated by parsing `<?target data?>` -/
def validPI (target data : Str) : Bool :=
  fullMatch N.pi ("<?".toList ++ target ++ ' ' :: data ++ "?>".toList)

/-- what is stored: the white space that separates target and data belongs to the separator -/
def storedPIData (data : Str) : Str := data.dropWhile isWs

def validData (k : Kind) (s : Str) : Bool :=
  match k with
  | .text => validText s
  | .comment => validComment s
  | .cdata => validCData s
  | .pi t => validPI t s
  | _ => false

/-- the value items of an attribute written as `value`: the attribute production applied to
    `a=<quoted value>`; `none` = not an attribute value (bare `&`, `<`, both kinds of quote) -/
def parseAttrValue (value : Str) : Option (List Piece) :=
  let quoted := escapeQ value
  match run env (100000 + 64 * value.length) (.nt N.att_value) quoted with
  | .ok (.node _ b) [] =>
    let ps := absPieces b
    -- every reference must resolve: the five predefined entities (a document edited through the DOM has
    -- no other general entities here) and character references to XML characters
    if ps.all (fun
        | .entRef n => (predefined.find? (·.1 == n)).isSome
        | .charRef d h => (charOfRef d h).isSome
        | .peRef _ => false
        | .text _ => true) then some ps else none
  | _ => none

def pieceKind : Piece → Kind × Str
  | .text s => (.text, s)
  | .charRef d h => (.ref ((if h then "&#x".toList else "&#".toList) ++ d ++ [';']), [])
  | .entRef n => (.ref n, [])
  | .peRef n => (.ref n, [])

/-- fresh value items for an attribute -/
def mkItems (next : Nat) : List Piece → List Node × Nat
  | [] => ([], next)
  | p :: r =>
    let (k, d) := pieceKind p
    let (rest, n') := mkItems (next + 1) r
    (.mk next k d [] [] :: rest, n')

/-! ### the initial state: a parsed document, ids in pre-order (node, its attributes with their value
    items, its children) -/
/-- a namespace declaration (`xmlns`, `xmlns:p`) is not an attribute node of the DOM view -/
def isNsDecl (q : QN) : Bool := q.pre == some "xmlns".toList || (q.pre == none && q.loc == "xmlns".toList)

def buildAttrs (next : Nat) : List Attr → List Node × Nat
  | [] => ([], next)
  | a :: r =>
    if isNsDecl a.name then buildAttrs next r else
    let items := mkItems (next + 1) a.vals
    let rest := buildAttrs items.2 r
    (Node.mk next (.attr a.name.text true) [] [] items.1 :: rest.1, rest.2)

mutual
def buildNode (next : Nat) : Item → Node × Nat
  | .text s => (.mk next .text s [] [], next + 1)
  | .cdata s => (.mk next .cdata s [] [], next + 1)
  | .comment s => (.mk next .comment s [] [], next + 1)
  | .pi t d => (.mk next (.pi t) (d.getD []) [] [], next + 1)
  | .charRef d h => (.mk next (.ref ((if h then "&#x".toList else "&#".toList) ++ d ++ [';'])) [] [] [], next + 1)
  | .entRef n => (.mk next (.ref n) [] [] [], next + 1)
  | .elem q attrs kids =>
      let as := buildAttrs (next + 1) attrs
      let ks := buildNodes as.2 kids
      (.mk next (.elem q.text) [] as.1 ks.1, ks.2)
def buildNodes (next : Nat) : List Item → List Node × Nat
  | [] => ([], next)
  | k :: r =>
    let x := buildNode next k
    let xs := buildNodes x.2 r
    (x.1 :: xs.1, xs.2)
end

def buildTop (next : Nat) : TopItem → Node × Nat
  | .comment s => (Node.mk next .comment s [] [], next + 1)
  | .pi tg d => (Node.mk next (.pi tg) (d.getD []) [] [], next + 1)
  | .doctype dt => (Node.mk next (.doctype dt.name.text) [] [] [], next + 1)
  | .elem e => buildNode next e

def buildTops (next : Nat) : List TopItem → List Node × Nat
  | [] => ([], next)
  | t :: r =>
    let x := buildTop next t
    let xs := buildTops x.2 r
    (x.1 :: xs.1, xs.2)

/-- the state a history starts from: the document node has id 0, every node has a handle -/
def buildSt (d : IDoc) : St :=
  let ks := buildTops 1 d.kids
  { doc := .mk 0 .doc [] [] ks.1, detached := [], next := ks.2, handles := (List.range ks.2).map some }

/-! ### operations -/
inductive Res where
  | ok
  | node (id : Nat)        -- a node is returned
  | none_                  -- "no node" (e.g. no previous attribute)
  | err (e : Exc)
  | panic                  -- recorded finding: the factories unwrap their validation
  deriving Inhabited

inductive Op where
  | createElement (name : Str) | createText (data : Str) | createComment (data : Str) | createCData (data : Str)
  | createPI (target data : Str) | createAttribute (name : Str) | createEntityRef (name : Str)
  | appendChild (p c : Nat) | insertBefore (p c : Nat) (ref : Option Nat) | replaceChild (p new old : Nat)
  | removeChild (p c : Nat)
  | setAttribute (e : Nat) (name value : Str) | removeAttribute (e : Nat) (name : Str)
  | setAttributeNode (e a : Nat) | removeAttributeNode (e a : Nat) | getAttributeNode (e : Nat) (name : Str)
  | childAt (n i : Nat)
  | setValue (n : Nat) (v : Str)
  | setData (n : Nat) (d : Str) | appendData (n : Nat) (d : Str) | insertData (n off : Nat) (d : Str)
  | deleteData (n off cnt : Nat) | replaceData (n off cnt : Nat) (d : Str) | splitText (n off : Nat)
  | normalize (e : Nat)
  deriving Inhabited

def localName (s : Str) : Str := match (spanP (· != ':') s).2 with | _ :: r => r | [] => s

def St.fresh (s : St) (k : Kind) (d : Str) : St × Nat :=
  ({ s with detached := s.detached ++ [.mk s.next k d [] []], next := s.next + 1 }, s.next)

def isCharData : Kind → Bool | .text | .cdata | .comment => true | _ => false

/-- may a node of kind `c` be a child of a node of kind `p`? -/
def childAllowed (p c : Kind) : Bool :=
  match p, c with
  | .elem _, .elem _ | .elem _, .text | .elem _, .cdata | .elem _, .comment | .elem _, .pi _ | .elem _, .ref _ => true
  | .doc, .comment | .doc, .pi _ | .doc, .elem _ | .doc, .doctype _ => true
  | .attr _ _, .text | .attr _ _, .ref _ => true
  | _, _ => false

def canHaveChildren : Kind → Bool | .elem _ | .doc | .attr _ _ => true | _ => false

/-- the reference node must be a child of the parent -/
def refMissing (pn : Node) (ref : Option Nat) : Bool :=
  match ref with
  | some r => !(pn.kids.any (·.id == r))
  | none => false

/-- the new child is its own reference: it goes in front of the node that follows it -/
def adjustRef (pn : Node) (c : Nat) (ref : Option Nat) : Option Nat :=
  match ref with
  | some r => if r == c then
      (match (pn.kids.dropWhile (·.id != c)).drop 1 with | n :: _ => some n.id | [] => none) else some r
  | none => none

/-- a document holds one element and one document type, the document type first -/
def docRefuses (pn : Node) (ck : Kind) (c : Nat) (ref' : Option Nat) : Bool :=
  pn.kind == .doc && (match ck with
    | .elem _ =>
        pn.kids.any (fun k => (match k.kind with | .elem _ => true | _ => false) && k.id != c) ||
        -- the document element stands after the document type
        (match pn.kids.findIdx? (fun k => match k.kind with | .doctype _ => true | _ => false), ref' with
         | some di, some r => (match pn.kids.findIdx? (·.id == r) with
             | some ri => !decide (di < ri)
             | none => false)
         | _, _ => false)
    | .doctype _ =>
        pn.kids.any (fun k => match k.kind with | .doctype _ => true | _ => false) ||
        (match pn.kids.findIdx? (fun k => match k.kind with | .elem _ => true | _ => false) with
         | none => false
         | some ei => match ref' with
           | none => true
           | some r => match pn.kids.findIdx? (·.id == r) with
             | some ri => decide (ei < ri)
             | none => true)
    | _ => false)

/-! ### nesting depth: elements nest only as deep as the parser reads them back (`MAX_ELEMENT_DEPTH`, translated as
    `maxDepth_element`); an insertion that would make the tree deeper is refused -/
def isElemKind : Kind → Bool | .elem _ => true | _ => false

mutual
/-- levels of element nesting in the subtree (the node itself counts if it is an element); a node that is not an element
    and has no element below it has height 0 -/
def elemHeight : Node → Nat
  | .mk _ k _ as ks => (if isElemKind k then 1 else 0) + max (elemHeightL as) (elemHeightL ks)
def elemHeightL : List Node → Nat
  | [] => 0
  | n :: r => max (elemHeight n) (elemHeightL r)
end

mutual
/-- number of elements on the path from the root of the tree down to node `i`, `i` included -/
def depthIn (i : Nat) : Node → Option Nat
  | .mk j k _ as ks =>
    let me := if isElemKind k then 1 else 0
    if i == j then some me else ((depthInL i as).orElse fun _ => depthInL i ks).map (· + me)
def depthInL (i : Nat) : List Node → Option Nat
  | [] => none
  | n :: r => (depthIn i n).orElse fun _ => depthInL i r
end

def St.elemDepth (s : St) (i : Nat) : Nat := (depthInL i s.roots).getD 0

/-- would the tree become deeper than the parser accepts?  The library makes this check where an ELEMENT receives a child.
    The model makes it for every receiver (and for `setAttributeNode`): on the states a history can reach the extra guards
    never trip - what goes below a document adds to depth 0, and attribute nodes, which hold only text and references, have
    height 0 - but with them the bound is an invariant of the transition relation by itself (`Lemmas/DomHeight`), with no
    second invariant about what attribute nodes may contain.  The tie would show a guard that tripped. -/
def tooDeep (s : St) (pn cn : Node) : Bool :=
  decide (maxDepth_element < s.elemDepth pn.id + elemHeight cn)

/-- `insertBefore` / `appendChild`: checks in the order the library makes them, then the move -/
def insertChild (s : St) (p c : Nat) (ref : Option Nat) : St × Res :=
  match s.find p, s.find c with
  | some pn, some cn =>
    if !canHaveChildren pn.kind then (s, .err .hierarchy) else
    -- the document node itself has no owner document: as a NEW child it is "of another document"; as a reference it is
    -- simply not a child (NOT_FOUND_ERR, `refMissing`)
    if c == s.doc.id then (s, .err .wrongDoc) else
    if ref == some s.doc.id then (s, .err .notFound) else
    if refMissing pn ref then (s, .err .notFound) else
    if s.isAncestorOrSelf c p then (s, .err .hierarchy) else
    if !childAllowed pn.kind cn.kind then (s, .err .hierarchy) else
    if docRefuses pn cn.kind c (adjustRef pn c ref) then (s, .err .hierarchy) else
    match s.detach c with
    | (s1, some x) =>
      -- the depth of the receiver does not change when the new child is taken out of its old place (it is not inside it)
      if tooDeep s1 pn x then (s, .err .hierarchy) else
      (s1.update p (Node.mapKids (insertBeforeL x (adjustRef pn c ref))), .node c)
    | (_, none) => (s, .err .notFound)
  | _, _ => (s, .err .notFound)

def removeChild (s : St) (p c : Nat) : St × Res :=
  match s.find p with
  | some pn =>
    if !canHaveChildren pn.kind then (s, .err .hierarchy) else
    -- the document node is nobody's child
    if c == s.doc.id then (s, .err .notFound) else
    if !(pn.kids.any (·.id == c)) then (s, .err .notFound) else
    match s.detach c with
    | (s1, some x) => ({ s1 with detached := s1.detached ++ [x] }, .node c)
    | (_, none) => (s, .err .notFound)
  | none => (s, .err .notFound)

/-- the attribute of element node `e` with (local) name `name` -/
def findAttr (e : Node) (name : Str) : Option Node :=
  e.attrs.find? fun a => match a.kind with | .attr n _ => localName n == localName name | _ => false

/-- take the node out (if it is there) and keep it as a detached tree -/
def St.detachKeep (s : St) (i : Nat) : St :=
  match s.detach i with
  | (s', some x) => { s' with detached := s'.detached ++ [x] }
  | (s', none) => s'

def St.detachAll (s : St) : List Nat → St
  | [] => s
  | i :: r => (s.detachKeep i).detachAll r

/-- attributes are addressed by local part: the ids of ALL attributes of `e` with the local part of `name` -/
def sameLocalIds (e : Node) (name : Str) : List Nat :=
  (e.attrs.filter fun a => match a.kind with | .attr n _ => localName n == localName name | _ => false).map (·.id)

/-- ... looked up with the name exactly AS SUPPLIED (getAttributeNode, removeAttribute do not take a prefix off the
    name they are given, so a qualified name matches nothing: part of the recorded finding `attr-local-part`) -/
def findAttrRaw (e : Node) (name : Str) : Option Node :=
  e.attrs.find? fun a => match a.kind with | .attr n _ => localName n == name | _ => false

def rawLocalIds (e : Node) (name : Str) : List Nat :=
  (e.attrs.filter fun a => match a.kind with | .attr n _ => localName n == name | _ => false).map (·.id)

/-! ### `Element.normalize` as the library does it: below the element, and in the value of each of its attributes, every
    run of Text nodes is merged INTO THE FIRST node of the run; an empty Text node is dropped; a Text node whose data
    cannot be appended to the run so far (the result would not be character data: `a]]` + `>b`) starts a new run.  CDATA
    sections, comments, PIs, references and elements end a run; elements are normalized in turn.  The dropped nodes
    keep their data and have no parent afterwards.  Result: the new subtree and the dropped nodes. -/
mutual
def normNode : Node → Node × List Node
  | .mk j k d as ks =>
    match k with
    | .elem _ =>
      let a := normAttrs as
      let c := normList none ks
      (.mk j k d a.1 c.1, a.2 ++ c.2)
    | _ => (.mk j k d as ks, [])
def normAttrs : List Node → List Node × List Node
  | [] => ([], [])
  | (.mk j k d as ks) :: r =>
    let v := normList none ks
    let rest := normAttrs r
    (.mk j k d as v.1 :: rest.1, v.2 ++ rest.2)
/-- `prev`: the Text node the current run is being merged into (not yet emitted) -/
def normList (prev : Option Node) : List Node → List Node × List Node
  | [] => (prev.toList, [])
  | (.mk j k d as ks) :: r =>
    match k with
    | .text =>
      if d.isEmpty then
        let x := normList prev r
        (x.1, .mk j k d as ks :: x.2)
      else
        match prev with
        | some p =>
          if validText (p.data ++ d) then
            let x := normList (some (p.withData (p.data ++ d))) r
            (x.1, .mk j k d as ks :: x.2)
          else
            let x := normList (some (.mk j k d as ks)) r
            (p :: x.1, x.2)
        | none => normList (some (.mk j k d as ks)) r
    | .elem _ =>
      let c := normNode (.mk j k d as ks)
      let x := normList none r
      (prev.toList ++ c.1 :: x.1, c.2 ++ x.2)
    | _ =>
      let x := normList none r
      (prev.toList ++ .mk j k d as ks :: x.1, x.2)
end

def step (s : St) : Op → St × Res
  | .createElement name =>
      if validQName name then let (s', i) := s.fresh (.elem name) []; ({ s' with handles := s'.handles ++ [some i] }, .node i)
      else ({ s with handles := s.handles ++ [none] }, .err .invalidChar)
  | .createText d =>
      if validText d then let (s', i) := s.fresh .text d; ({ s' with handles := s'.handles ++ [some i] }, .node i) else ({ s with handles := s.handles ++ [none] }, .panic)
  | .createComment d =>
      if validComment d then let (s', i) := s.fresh .comment d; ({ s' with handles := s'.handles ++ [some i] }, .node i) else ({ s with handles := s.handles ++ [none] }, .panic)
  | .createCData d =>
      if validCData d then let (s', i) := s.fresh .cdata d; ({ s' with handles := s'.handles ++ [some i] }, .node i) else ({ s with handles := s.handles ++ [none] }, .panic)
  | .createPI t d =>
      if validPITarget t && validPI t d then let (s', i) := s.fresh (.pi t) (storedPIData d); ({ s' with handles := s'.handles ++ [some i] }, .node i)
      else ({ s with handles := s.handles ++ [none] }, .err .invalidChar)
  | .createAttribute name =>
      if validQName name then let (s', i) := s.fresh (.attr name true) []; ({ s' with handles := s'.handles ++ [some i] }, .node i)
      else ({ s with handles := s.handles ++ [none] }, .err .invalidChar)
  | .createEntityRef name =>
      if !validName name then ({ s with handles := s.handles ++ [none] }, .err .invalidChar)
      else if (predefined.find? (·.1 == name)).isSome then
        let (s', i) := s.fresh (.ref name) []; ({ s' with handles := s'.handles ++ [some i] }, .node i)
      else ({ s with handles := s.handles ++ [none] }, .err .invalid)
  | .appendChild p c => insertChild s p c none
  | .insertBefore p c r => insertChild s p c r
  | .removeChild p c => removeChild s p c
  | .replaceChild p new old =>
      match s.find p with
      | none => (s, .err .notFound)
      | some pn =>
        if new == old then
          -- a child that replaces itself stays where it is (the checks of insertBefore apply)
          (match insertChild s p new (some old) with
           | (s', .node _) => (s', .node old)
           | r => r)
        else
        -- `old` is taken out, `new` goes in front of the node that followed it; when that is refused
        -- nothing has happened
        let after := ((pn.kids.dropWhile (·.id != old)).drop 1).filter (·.id != new)
        let ref : Option Nat := after.head?.map (·.id)
        match removeChild s p old with
        | (s1, .node _) =>
          (match insertChild s1 p new ref with
           | (s2, .node _) => (s2, .node old)
           | (_, r) => (s, r))
        | (_, r) => (s, r)
  | .setAttribute e name value =>
      match s.find e with
      | some en =>
        (match en.kind with
         | .elem _ =>
           if !validQName name then (s, .err .invalidChar) else
           match parseAttrValue value with
           | none => (s, .err .invalid)
           | some ps =>
             let (items, n') := mkItems (s.next + 1) ps
             let a := Node.mk s.next (.attr name true) [] [] items
             -- every attribute of that local part is replaced (they become detached, anonymous nodes)
             let s1 : St := s.detachAll (sameLocalIds en name)
             ({ (s1.update e (Node.mapAttrs (· ++ [a]))) with next := n' }, .ok)
         | _ => (s, .err .notFound))
      | none => (s, .err .notFound)
  | .removeAttribute e name =>
      match s.find e with
      | some en =>
        (s.detachAll (rawLocalIds en name), .ok)
      | none => (s, .err .notFound)
  | .setAttributeNode e a =>
      match s.find e, s.find a with
      | some en, some an =>
        (match an.kind with
         | .attr name _ =>
           if (s.owner a) == some e then (s, .node a) else         -- already this element's attribute: nothing to do
           if (s.owner a).isSome then (s, .err .inUse) else
           let oldId : Option Nat := (findAttr en name).map (·.id)
           let s1 : St := s.detachAll (sameLocalIds en name)
           (match s1.detach a with
            | (s2, some x) =>
              if tooDeep s2 en x then (s, .err .hierarchy) else     -- never trips, see `tooDeep`
              (s2.update e (Node.mapAttrs (· ++ [x])),
               match oldId with | some o => .node o | none => .none_)
            | (_, none) => (s, .err .notFound))
         | _ => (s, .err .hierarchy))
      | _, _ => (s, .err .notFound)
  | .removeAttributeNode e a =>
      if s.owner a == some e then
        -- removal goes by the node's local part: every attribute of the element with that local part goes with it
        match s.find e, s.find a with
        | some en, some an =>
          (match an.kind with
           | .attr name _ =>
             -- recorded finding `attr-local-part`: the node is looked up by its local part, so only the FIRST attribute
             -- of that local part is found; DOM Level 1 would remove any attribute node of the element
             if (findAttr en name).map (·.id) == some a then (s.detachAll (sameLocalIds en name), .node a)
             else (s, .err .notFound)
           | _ => (s, .err .notFound))
        | _, _ => (s, .err .notFound)
      else (s, .err .notFound)
  | .getAttributeNode e name =>
      match s.find e with
      | some en => (match findAttrRaw en name with
          | some o => ({ s with handles := s.handles ++ [some o.id] }, .node o.id)
          | none => ({ s with handles := s.handles ++ [none] }, .none_))
      | none => ({ s with handles := s.handles ++ [none] }, .err .notFound)
  | .childAt n i =>
      match s.find n with
      | some nn => (match nn.kids[i]? with
          | some k => ({ s with handles := s.handles ++ [some k.id] }, .node k.id)
          | none => ({ s with handles := s.handles ++ [none] }, .none_))
      | none => ({ s with handles := s.handles ++ [none] }, .err .notFound)
  | .setValue n v =>
      match s.find n with
      | some nn =>
        (match nn.kind with
         | .attr _ _ =>
           (match parseAttrValue v with
            | none => (s, .err .invalid)
            | some ps =>
              let (items, n') := mkItems s.next ps
              -- the old value items become detached anonymous nodes
              let s1 := s.update n (Node.mapKids (fun _ => items))
              ({ s1 with next := n', detached := s1.detached ++ nn.kids }, .ok))
         | .text | .cdata | .comment | .pi _ =>
           if validData nn.kind v then
             (s.update n (Node.withData (match nn.kind with | .pi _ => storedPIData v | _ => v)), .ok)
           else (s, .err .invalid)
         | _ => (s, .err .noData))
      | none => (s, .err .notFound)
  | .setData n d => dataOp s n (fun old => some d)
  | .appendData n d => dataOp s n (fun old => some (old ++ d))
  | .insertData n off d => dataOp s n (fun old => CharData.insertData old off d)
  | .deleteData n off cnt => dataOp s n (fun old => CharData.deleteData old off cnt)
  | .replaceData n off cnt d => dataOp s n (fun old => CharData.replaceData old off cnt d)
  | .splitText n off =>
      match s.find n with
      | some nn =>
        (match nn.kind with
         | .text | .cdata =>
           (match CharData.splitText nn.data off with
            | none => ({ s with handles := s.handles ++ [none] }, .err .indexSize)
            | some (l, r) =>
              let new := Node.mk s.next nn.kind r [] []
              let s1 := s.update n (Node.withData l)
              let s2 : St := match s1.parent n with
                | some p => s1.update p (Node.mapKids fun ks =>
                    match (ks.dropWhile (·.id != n)).drop 1 with
                    | nx :: _ => insertBeforeL new (some nx.id) ks
                    | [] => ks ++ [new])
                | none => { s1 with detached := s1.detached ++ [new] }
              ({ s2 with next := s.next + 1, handles := s.handles ++ [some s.next] }, .node s.next))
         | _ => ({ s with handles := s.handles ++ [none] }, .err .hierarchy))
      | none => ({ s with handles := s.handles ++ [none] }, .err .notFound)
  | .normalize e =>
      match s.find e with
      | some en => ({ (s.update e fun n => (normNode n).1) with detached := (s.update e fun n => (normNode n).1).detached ++ (normNode en).2 }, .ok)
      | none => (s, .err .notFound)
where
  /-- a CharacterData edit: INDEX_SIZE_ERR from the offset, then the validity of the OUTCOME -/
  dataOp (s : St) (n : Nat) (f : Str → Option Str) : St × Res :=
    match s.find n with
    | some nn =>
      if isCharData nn.kind || (match nn.kind with | .pi _ => true | _ => false) then
        match f nn.data with
        | none => (s, .err .indexSize)
        | some d' => if validData nn.kind d' then
                       (s.update n (Node.withData (match nn.kind with | .pi _ => storedPIData d' | _ => d')), .ok)
                     else (s, .err .invalid)
      else (s, .err .noData)
    | none => (s, .err .notFound)

/-- `attributes.removeNamedItem(name)` = look the attribute up (NOT_FOUND_ERR if there is none), remove it by that
    name, hand it back; `attributes.setNamedItem` = `setAttributeNode`, `attributes.getNamedItem` = `getAttributeNode` -/
def removeNamedItem (s : St) (e : Nat) (name : Str) : St × Res :=
  match s.find e with
  | some en =>
    (match findAttrRaw en name with
     | some o => ((step s (.removeAttribute e name)).1, .node o.id)
     | none => (s, .err .notFound))
  | none => (s, .err .notFound)

end XmlRs.Dom
